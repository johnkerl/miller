/-
The int64 kernels of `Model/Arith` compute what `Spec/Arith` says, for all int64 operands.
`+ - *`: the kernel's overflow test holds exactly when the exact result does not fit.
`/ // %`: Go's truncated quotient and remainder fit (except `-2^63 / -1`) and give the floor
quotient and remainder by one step of adjustment.  `madd msub mmul mexp`: no intermediate overflow.
-/
import MillerModel.Spec.Arith
namespace Miller
namespace Lemmas.C07
open Arith

theorem exactOrFloat_of_test {c : Bool} {x : Int} (f : Nat) (h : c = true ↔ ¬ I64 x) :
    (if c then Val.float f else .int (wrap x)) = Spec.Arith.exactOrFloat x f := by
  unfold Spec.Arith.exactOrFloat
  by_cases hx : I64 x
  · simp [(fitsI64_iff x).mpr hx, wrap_of_I64 hx, mt h.mp (not_not_intro hx)]
  · simp [mt (fitsI64_iff x).mp hx, h.mpr hx]

theorem plus_exact (a b : Int) (ha : I64 a) (hb : I64 b) : plus_n_ii a b = Spec.Arith.plus a b := by
  refine exactOrFloat_of_test _ ?_
  unfold wrap I64 at *
  repeat' split
  all_goals simp only [Bool.and_eq_true, decide_eq_true_eq, Bool.false_eq_true, false_iff]
  all_goals omega

theorem minus_exact (a b : Int) (ha : I64 a) (hb : I64 b) : minus_n_ii a b = Spec.Arith.minus a b := by
  refine exactOrFloat_of_test _ ?_
  unfold wrap I64 at *
  repeat' split
  all_goals simp only [Bool.and_eq_true, decide_eq_true_eq, Bool.false_eq_true, false_iff]
  all_goals omega

theorem natAbs_tmod_lt (a : Int) {b : Int} (hb : b ≠ 0) : (a.tmod b).natAbs < b.natAbs := by
  rw [Int.natAbs_tmod]
  exact Nat.mod_lt _ (Int.natAbs_pos.mpr hb)

theorem tmod_sign (a b : Int) : (0 ≤ a → 0 ≤ a.tmod b) ∧ (a ≤ 0 → a.tmod b ≤ 0) := by
  have h := @Int.tmod_nonneg (-a) b
  rw [Int.neg_tmod] at h
  exact ⟨Int.tmod_nonneg b, by omega⟩

/-- A quotient no larger than the dividend fits in 64 bits, except for `-2^63 / -1`. -/
theorem quot_I64 {a b q r : Int} (ha : I64 a) (hq : q.natAbs ≤ a.natAbs) (h : b * q + r = a)
    (hr : r.natAbs < b.natAbs) (hs : ¬(a = minI64 ∧ b = -1)) : I64 q := by
  unfold I64 minI64 at *
  have h63 : q ≠ 9223372036854775808 := by
    rintro rfl
    omega
  clear h hr hs
  omega

theorem tdiv_I64 {a b : Int} (ha : I64 a) (hb : b ≠ 0) (hs : ¬(a = minI64 ∧ b = -1)) :
    I64 (a.tdiv b) :=
  quot_I64 ha (Int.natAbs_tdiv_le_natAbs a b) (Int.mul_tdiv_add_tmod a b) (natAbs_tmod_lt a hb) hs

/-- Go's test for `a * b`: with `c` the wrapped product, `a != 0 && (c / a != b || …)`, the two further
alternatives being `-1 * -2^63` either way round (for `a = -1` the quotient `c / a` wraps back to `b`). -/
theorem times_exact (a b : Int) (ha : I64 a) (hb : I64 b) : times_n_ii a b = Spec.Arith.times a b := by
  refine exactOrFloat_of_test _ ?_
  simp only [Bool.and_eq_true, Bool.or_eq_true, bne_iff_ne, beq_iff_eq]
  by_cases h0 : a = 0
  · subst h0
    simp [I64]
  have hr := natAbs_tmod_lt (wrap (a * b)) h0
  have hmt := Int.mul_tdiv_add_tmod (wrap (a * b)) a
  constructor
  · rintro ⟨-, (h | ⟨rfl, rfl⟩) | ⟨rfl, rfl⟩⟩ hI
    · rw [wrap_of_I64 hI, goDiv, Int.mul_tdiv_cancel_left b h0, wrap_of_I64 hb] at h
      exact h rfl
    · revert hI
      decide
    · revert hI
      decide
  · intro hI
    refine ⟨h0, ?_⟩
    by_cases hq : I64 ((wrap (a * b)).tdiv a)
    · -- the quotient is not wrapped: were it `b`, `a * b` would be within `|a|` of its wrap
      refine .inl (.inl ?_)
      rw [goDiv, wrap_of_I64 hq]
      intro h
      rw [h] at hmt
      unfold I64 wrap at *
      omega
    · -- only `-2^63 / -1` has a quotient that does not fit
      obtain ⟨hc, rfl⟩ := Classical.not_not.mp (mt (tdiv_I64 (wrap_I64 (a * b)) h0) hq)
      refine .inl (.inr ⟨rfl, ?_⟩)
      unfold I64 minI64 at *
      omega

/-- Where the division is exact, Go's truncated quotient is the exact one, and only -2^63 / -1 fails to fit. -/
theorem divide_exact (a b : Int) (ha : I64 a) (hb : I64 b) : divide_n_ii a b = Spec.Arith.divide a b := by
  unfold divide_n_ii Spec.Arith.divide Spec.Arith.exactOrFloat goMod
  by_cases h0 : b = 0
  · simp [h0]
  have hd : a.tmod b = 0 ↔ a % b = 0 := by
    rw [← Int.dvd_iff_tmod_eq_zero, Int.dvd_iff_emod_eq_zero]
  by_cases hm : a % b = 0
  · have hq : a.tdiv b = a / b := Int.tdiv_eq_ediv_of_dvd (Int.dvd_of_emod_eq_zero hm)
    by_cases hs : a = minI64 ∧ b = -1
    · obtain ⟨rfl, rfl⟩ := hs
      decide
    · have hI := tdiv_I64 ha h0 hs
      have hs' : (a == minI64 && b == -1) = false := by simpa using hs
      simp [h0, hd.mpr hm, hm, hs', goDiv, wrap_of_I64 hI, ← hq, (fitsI64_iff _).mpr hI]
  · simp [h0, mt hd.mp hm, hm]

/-- Floor quotient and remainder from the truncated ones, as Go computes them: one step towards
`-∞` when the remainder is non-zero and the operands differ in sign. -/
theorem floor_of_trunc {a b : Int} (hb : b ≠ 0) :
    (a.fdiv b = if a.tmod b ≠ 0 ∧ (a < 0 ↔ 0 < b) then a.tdiv b - 1 else a.tdiv b) ∧
    (a.fmod b = if a.tmod b ≠ 0 ∧ (a < 0 ↔ 0 < b) then a.tmod b + b else a.tmod b) := by
  have hmt := Int.mul_tdiv_add_tmod a b
  have hr := natAbs_tmod_lt a hb
  have hs := tmod_sign a b
  rcases Int.lt_or_gt_of_ne hb with h | h
  · refine (Int.fdiv_fmod_unique' h).mpr ?_
    split
    · rw [Int.mul_sub]
      omega
    · omega
  · refine (Int.fdiv_fmod_unique h).mpr ?_
    split
    · rw [Int.mul_sub]
      omega
    · omega

theorem fmod_bound (a : Int) {b : Int} (hb : b ≠ 0) :
    (0 < b → 0 ≤ a.fmod b ∧ a.fmod b < b) ∧ (b < 0 → b < a.fmod b ∧ a.fmod b ≤ 0) := by
  have h1 := @Int.fmod_eq_emod a b
  have h2 := Int.emod_nonneg a hb
  have h3 := Int.emod_lt a hb
  omega

theorem fdiv_I64 {a b : Int} (ha : I64 a) (hb : b ≠ 0) (hs : ¬(a = minI64 ∧ b = -1)) :
    I64 (a.fdiv b) := by
  refine quot_I64 ha (Int.natAbs_fdiv_le_natAbs a b) (Int.mul_fdiv_add_fmod a b) ?_ hs
  have hm := fmod_bound a hb
  omega

theorem int_divide_exact (a b : Int) (ha : I64 a) (hb : I64 b) :
    int_divide_n_ii a b = Spec.Arith.intDivide a b := by
  unfold int_divide_n_ii Spec.Arith.intDivide Spec.Arith.exactOrFloat
  by_cases h0 : b = 0
  · simp [h0]
  by_cases hs : a = minI64 ∧ b = -1
  · obtain ⟨rfl, rfl⟩ := hs
    decide
  have hf := fdiv_I64 ha h0 hs
  have hq : goDiv a b = a.tdiv b := wrap_of_I64 (tdiv_I64 ha h0 hs)
  have hs' : (a == minI64 && b == -1) = false := by simpa using hs
  simp only [h0, hs', hq, goMod, (fitsI64_iff _).mpr hf, beq_iff_eq, bne_iff_ne,
    if_false, Bool.false_eq_true]
  congr 1
  rw [(floor_of_trunc h0).1] at hf ⊢
  -- Go's nested sign tests against the one condition of `floor_of_trunc`; `hf` undoes the `wrap`
  clear ha hb hs hs' hq
  unfold wrap I64 at *
  omega

theorem modulus_exact (a b : Int) (hb : I64 b) : modulus_i_ii a b = Spec.Arith.modulus a b := by
  unfold modulus_i_ii Spec.Arith.modulus
  by_cases h0 : b = 0
  · simp [h0]
  simp only [h0, beq_iff_eq, if_false, goMod, bne_iff_ne]
  congr 1
  have hm := fmod_bound a h0
  rw [(floor_of_trunc h0).2] at hm ⊢
  unfold wrap I64 at *
  omega

theorem mlrmod_pos (a : Int) {m : Int} (hm : 0 < m) (hm64 : I64 m) : mlrmod a m = a % m := by
  have hb := fmod_bound a (Int.ne_of_gt hm)
  rw [← Int.fmod_eq_emod_of_nonneg a (Int.le_of_lt hm)]
  rw [(floor_of_trunc (Int.ne_of_gt hm)).2] at hb ⊢
  simp only [mlrmod, goMod]
  unfold wrap I64 at *
  omega

/-- `madd`, `msub`, `mmul` for a positive modulus: the operands are reduced first, so that no
intermediate result leaves the int64 range. -/
theorem imod_exact (a b : Int) {m : Int} (hm : 0 < m) (hm64 : I64 m) :
    imodadd a b m = (a + b) % m ∧ imodsub a b m = (a - b) % m ∧ imodmul a b m = (a * b) % m := by
  have hm0 : ¬ m ≤ 0 := by omega
  have hx0 := Int.emod_nonneg a (Int.ne_of_gt hm)
  have hx1 := Int.emod_lt_of_pos a hm
  have hy0 := Int.emod_nonneg b (Int.ne_of_gt hm)
  have hy1 := Int.emod_lt_of_pos b hm
  simp only [imodadd, imodsub, imodmul, hm0, if_false, mlrmod_pos _ hm hm64, Int.ofNat_eq_natCast]
  rw [Int.add_emod a b, Int.sub_emod a b, Int.mul_emod a b]
  generalize a % m = x at *
  generalize b % m = y at *
  refine ⟨?_, ?_, ?_⟩
  · split
    · rw [← Int.sub_emod_right, Int.emod_eq_of_lt (by omega) (by omega)]
      omega
    · rw [Int.emod_eq_of_lt (by omega) (by omega)]
      omega
  · split
    · rw [← Int.add_emod_right, Int.emod_eq_of_lt (by omega) (by omega)]
    · rw [Int.emod_eq_of_lt (by omega) (by omega)]
  · rw [Int.natCast_emod, Int.natCast_mul, Int.toNat_of_nonneg hx0, Int.toNat_of_nonneg hy0,
      Int.toNat_of_nonneg (Int.le_of_lt hm)]

theorem pow_emod (x m : Int) (k : Nat) : ((x % m) ^ k) % m = (x ^ k) % m := by
  induction k with
  | zero => simp
  | succ k ih => rw [Int.pow_succ, Int.pow_succ, Int.mul_emod, ih, Int.emod_emod, ← Int.mul_emod]

/-- Repeated squaring; `c` itself comes back unreduced when `u = 0`, hence the `if`. -/
theorem imodexpLoop_eq_pow (fuel u : Nat) (c p : Int) {m : Int} (hm : 0 < m) (hm64 : I64 m)
    (hu : u < 2 ^ fuel) : imodexpLoop fuel u c p m = if u = 0 then c else (c * p ^ u) % m := by
  induction fuel generalizing u c p with
  | zero => simp [show u = 0 by omega, imodexpLoop]
  | succ fuel ih =>
    unfold imodexpLoop
    by_cases h0 : u = 0
    · simp [h0]
    have hp : p ^ u = (p * p) ^ (u / 2) * p ^ (u % 2) := by
      rw [show p * p = p ^ 2 by rw [Int.pow_succ, Int.pow_one], ← Int.pow_mul, ← Int.pow_add,
        Nat.div_add_mod]
    simp only [beq_iff_eq, h0, if_false, (imod_exact _ _ hm hm64).2.2, ih (u / 2) _ _ (by omega), hp]
    rcases Nat.mod_two_eq_zero_or_one u with h | h
    · have hk : u / 2 ≠ 0 := by omega
      simp only [h, hk, if_false, Int.pow_zero, Int.mul_one, Nat.zero_ne_one]
      rw [Int.mul_emod, pow_emod, ← Int.mul_emod]
    · simp only [h, if_true, Int.pow_one]
      split
      · next hk => rw [hk, Int.pow_zero, Int.one_mul]
      · rw [Int.mul_emod, pow_emod, Int.emod_emod, ← Int.mul_emod, Int.mul_right_comm, Int.mul_assoc]

theorem mexp_exact (a e : Int) {m : Int} (he : 0 ≤ e) (he64 : I64 e) (hm : 0 < m) (hm64 : I64 m) :
    imodexp a e m = (a ^ e.toNat) % m := by
  unfold imodexp
  by_cases h0 : e = 0
  · subst h0
    simp [mlrmod_pos 1 hm hm64]
  by_cases h1 : e = 1
  · subst h1
    simp [mlrmod_pos a hm hm64, Int.pow_one]
  have hu : i2u e = e.toNat := by
    unfold i2u I64 at *
    rw [Int.emod_eq_of_lt he (by omega)]
  have hne : e.toNat ≠ 0 := by omega
  simp [h0, h1, hu, hne, imodexpLoop_eq_pow 64 e.toNat 1 a hm hm64 (by unfold I64 at he64; omega)]

end Lemmas.C07
end Miller
