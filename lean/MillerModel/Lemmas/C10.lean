/-
Lemmas for C10: the streaming per-group accumulation (`Verbs.groupFold`) is a keyed accumulation
in the sense of Lemmas/C11, so it holds, per group in first-appearance order, the fold over that
group's records.
-/
import MillerModel.Model.Verbs.Stats
import MillerModel.Lemmas.C11
namespace Miller
namespace Lemmas.C10
open Verbs Lemmas.C11

/-- The grouping key as `Verbs.groupUpdate` computes it inline: `joinKey` of the selected values,
none if a field is missing.  It is `Verbs.groupKey fields` (whose extra test for an empty field
list returns what this returns anyway) and `Verbs.jkey fields false`. -/
def gkey (fields : List Bytes) (r : Rec) : Option Bytes := (fields.mapM (get r)).map (joinKey)

def firstVals (fields : List Bytes) : List Rec → List Bytes
  | [] => []
  | r :: _ => (fields.mapM (get r)).getD []

/-- The streaming per-group accumulation equals, group by group in first-appearance order, the
fold of the update function over exactly that group's records in input order. -/
theorem groupFold_eq {α} (fields : List Bytes) (init : α) (upd : α → Rec → α) (xs : List Rec) :
    groupFold fields init upd xs
      = perGroup (gkey fields) (fun g => (firstVals fields g, g.foldl upd init)) xs := by
  have hstep : groupUpdate fields init upd = keyedStep (gkey fields) fun o r =>
      match o with
      | some g => (g.1, upd g.2 r)
      | none => ((fields.mapM (get r)).getD [], upd init r) := by
    funext m r
    unfold groupUpdate keyedStep gkey
    cases h : fields.mapM (get r) with
    | none => rfl
    | some vs =>
      simp only [Option.map_some, h]
      cases m.get? (joinKey vs) <;> rfl
  rw [groupFold, hstep]
  refine foldl_keyedStep _ _ _ (fun g r => ?_) [] xs
  cases g with
  | nil => rfl
  | cons x g => simp [firstVals]

end Lemmas.C10
end Miller
