/-
Lemmas for C11 and for every verb that groups: the keyed accumulation all grouping verbs perform
and the map it ends in (`foldl_keyedStep`), its instances for the counting selectors and for
group-by / group-like, the collecting map in invariant form (`GroupInv`, `GInv`), the history filters
of `Spec/Select.lean`, and the injectivity of the grouping key (by its decoder `decKey`).
-/
import MillerModel.Lemmas.Lists
import MillerModel.Lemmas.VerbLaws
namespace Miller
namespace Lemmas.C11
open Verbs Spec.Select Lemmas.Lists Lemmas.VerbLaws

/-! ### keyed accumulation

Every grouping verb folds the stream into an ordered map: a record with key `k` replaces the entry
of `k` by a function of the old entry and the record (`keyedStep`).  After any stream the map is
`perGroup`: one entry per distinct key, in first-appearance order, holding a function `F` of
exactly that group's records (`foldl_keyedStep`).  Collecting (group-by, the join buckets),
counting (head -g, tail, decimate) and the accumulators of count/stats1 are choices of `F`. -/

/-- `dkeys`: the distinct keys in order of first appearance; `grp`: the records of one key, in input
order.  The definitions of `Spec/Select.lean` are these at `keyOf := groupKey fields`, by unfolding:
`distinctKeys fields = dkeys (groupKey fields)`, the filter inside `Spec.Select.groupBy` is
`grp (groupKey fields)`, and `cnt` is its length (`cnt_eq`). -/
def dkeys (keyOf : Rec → Option Bytes) (xs : List Rec) : List Bytes := (xs.filterMap keyOf).foldl addKey []
def grp (keyOf : Rec → Option Bytes) (xs : List Rec) (k : Bytes) : List Rec := xs.filter (fun x => keyOf x == some k)

theorem dkeys_append (keyOf : Rec → Option Bytes) (pre : List Rec) (r : Rec) :
    dkeys keyOf (pre ++ [r]) = match keyOf r with
      | none => dkeys keyOf pre
      | some k => addKey (dkeys keyOf pre) k := by
  cases h : keyOf r <;> simp [dkeys, h]

theorem grp_append (keyOf : Rec → Option Bytes) (pre : List Rec) (r : Rec) (k : Bytes) :
    grp keyOf (pre ++ [r]) k = if keyOf r = some k then grp keyOf pre k ++ [r] else grp keyOf pre k := by
  by_cases h : keyOf r = some k <;> simp [grp, h]

theorem mem_dkeys (keyOf : Rec → Option Bytes) (xs : List Rec) (k : Bytes) :
    k ∈ dkeys keyOf xs ↔ grp keyOf xs k ≠ [] :=
  (mem_foldl_addNew (xs.filterMap keyOf) [] k).trans (by simp [grp])

theorem nodup_dkeys (keyOf : Rec → Option Bytes) (xs : List Rec) : (dkeys keyOf xs).Nodup :=
  nodup_foldl_addNew _ [] List.nodup_nil

/-- The group sizes add up to the number of records that have a key: the size of a group is the
multiplicity of its key among the keys of the stream. -/
theorem sum_group_lengths (keyOf : Rec → Option Bytes) (xs : List Rec) :
    ((dkeys keyOf xs).map fun k => (grp keyOf xs k).length).sum
      = (xs.filter fun r => (keyOf r).isSome).length := by
  simp only [grp, ← List.countP_eq_length_filter, ← List.count_filterMap, ← List.length_filterMap_eq_countP]
  exact sum_count_eq_length _ _ (nodup_dkeys keyOf xs) fun k hk => (mem_foldl_addNew _ [] k).mpr (Or.inr hk)

def keyedStep {β} (keyOf : Rec → Option Bytes) (upd : Option β → Rec → β) (m : OMap β) (r : Rec) : OMap β :=
  match keyOf r with
  | none => m
  | some k => m.put k (upd (m.get? k) r)

def perGroup {β} (keyOf : Rec → Option Bytes) (F : List Rec → β) (xs : List Rec) : OMap β :=
  (dkeys keyOf xs).map fun k => (k, F (grp keyOf xs k))

theorem get?_perGroup {β} (keyOf : Rec → Option Bytes) (F : List Rec → β) (xs : List Rec) (k : Bytes) :
    (perGroup keyOf F xs).get? k = if grp keyOf xs k = [] then none else some (F (grp keyOf xs k)) := by
  simp only [perGroup, get?_map, mem_dkeys]
  simp

theorem cnt_eq (fields : List Bytes) (pre : List Rec) (k : Bytes) :
    cnt fields pre k = (grp (groupKey fields) pre k).length := rfl

/-- One step keeps the map in the form `perGroup`.  `hF` says that `upd` computes `F` record by
record: `F` of a group extended by `r` is `upd` of the old entry and `r`, the old entry being `none`
while the group is still empty and `some (F g)` after that. -/
theorem keyedStep_perGroup {β} (keyOf : Rec → Option Bytes) (upd : Option β → Rec → β) (F : List Rec → β)
    (hF : ∀ g r, F (g ++ [r]) = upd (if g = [] then none else some (F g)) r) (pre : List Rec) (r : Rec) :
    keyedStep keyOf upd (perGroup keyOf F pre) r = perGroup keyOf F (pre ++ [r]) := by
  unfold keyedStep
  cases hk : keyOf r with
  | none => simp [perGroup, dkeys_append, grp_append, hk]
  | some k =>
    -- both sides are tables over `addKey (dkeys keyOf pre) k`; they agree entry by entry
    simp only [get?_perGroup, ← hF]
    simp only [perGroup, put_map, dkeys_append, hk]
    apply List.map_congr_left
    intro k' _
    by_cases h : k' = k
    · simp [grp_append, hk, h]
    · simp [grp_append, hk, h, Ne.symm h]

/-- Keyed accumulation ends in `perGroup`: if `upd` computes `F` record by record, starting from
`none` (`hF`, as in `keyedStep_perGroup`), then folding `keyedStep keyOf upd` over a stream leaves
one entry per distinct key, in first-appearance order, holding `F` of exactly that key's records. -/
theorem foldl_keyedStep {β} (keyOf : Rec → Option Bytes) (upd : Option β → Rec → β) (F : List Rec → β)
    (hF : ∀ g r, F (g ++ [r]) = upd (if g = [] then none else some (F g)) r) (pre rest : List Rec) :
    rest.foldl (keyedStep keyOf upd) (perGroup keyOf F pre) = perGroup keyOf F (pre ++ rest) := by
  rw [List.foldl_hom (perGroup keyOf F) (keyedStep_perGroup keyOf upd F hF), foldl_snoc]

/-- Collecting each group's records (group-by, group-like, the left buckets of join). -/
theorem foldl_collect (keyOf : Rec → Option Bytes) (xs : List Rec) :
    xs.foldl (keyedStep keyOf fun o r => o.getD [] ++ [r]) [] = perGroup keyOf id xs :=
  foldl_keyedStep keyOf _ id (fun g r => by cases g <;> rfl) [] xs

/-- The state of a grouping verb after consuming `pre`. -/
structure GroupInv (fields : List Bytes) (m : OMap (List Rec)) (pre : List Rec) : Prop where
  keys : m.map (·.1) = distinctKeys fields pre
  vals : ∀ p ∈ m, p.2 = pre.filter (fun x => groupKey fields x == some p.1)
  nodup : (m.map (·.1)).Nodup

/-- The collecting map as an invariant: what `perGroup keyOf id` satisfies (`ginv_perGroup`). -/
structure GInv (keyOf : Rec → Option Bytes) (m : OMap (List Rec)) (pre : List Rec) : Prop where
  keys : m.map (·.1) = dkeys keyOf pre
  vals : ∀ p ∈ m, p.2 = grp keyOf pre p.1
  nodup : (m.map (·.1)).Nodup
  absent : ∀ k, k ∉ m.map (·.1) → grp keyOf pre k = []

theorem ginv_perGroup (keyOf : Rec → Option Bytes) (xs : List Rec) : GInv keyOf (perGroup keyOf id xs) xs := by
  have keys : (perGroup keyOf id xs).map (·.1) = dkeys keyOf xs := by simp [perGroup, Function.comp_def]
  refine ⟨keys, ?_, keys ▸ nodup_dkeys keyOf xs, fun k hk => ?_⟩
  · intro p hp
    obtain ⟨k, _, rfl⟩ := List.mem_map.mp hp
    rfl
  · rw [keys, mem_dkeys] at hk
    exact Classical.not_not.mp hk

/-- Generic theorem for the counting verbs (head -g, tail -n +k, decimate): a machine that keeps
per-key counters and decides on `decideKeep (count before)` equals the history filter. -/
theorem counting_machine (fields : List Bytes) (decideKeep : Nat → Bool) (M : Machine (OMap Nat))
    (hinit : M.init = [])
    (hstep : ∀ m r, M.step m r =
      (keyedStep (groupKey fields) (fun o _ => o.getD 0 + 1) m r,
       match groupKey fields r with
       | none => []
       | some k => if decideKeep ((m.get? k).getD 0) then [r] else []))
    (hfin : ∀ m, M.finish m = []) (xs : List Rec) :
    M.run xs = filterHist (fun pre r => match groupKey fields r with
        | none => false | some k => decideKeep (cnt fields pre k)) [] xs := by
  -- a key's counter, read with default 0, is the size of its group, whether or not the key is there yet
  have hget : ∀ g : List Rec, (if g = [] then none else some g.length).getD 0 = g.length := by
    intro g
    cases g <;> rfl
  rw [Machine.run, hinit]
  refine run_filterHist M (perGroup (groupKey fields) List.length) _ (fun pre r => ?_) hfin [] xs
  rw [hstep, keyedStep_perGroup _ _ _ fun g r => by rw [hget, List.length_append, List.length_singleton]]
  cases groupKey fields r with
  | none => rfl
  | some k =>
    simp only [get?_perGroup, hget]
    rw [← cnt_eq]

/-- `Verbs.groupBy fields` and `Verbs.groupLike` are this machine at their key functions, by unfolding. -/
def groupMachine (keyOf : Rec → Option Bytes) : Machine (OMap (List Rec)) where
  init := []
  step := fun m r =>
    match keyOf r with
    | none => (m, [])
    | some k => (m.put k ((m.get? k).getD [] ++ [r]), [])
  finish := fun m => (m.map (·.2)).flatten

theorem groupMachine_run (keyOf : Rec → Option Bytes) (xs : List Rec) :
    (groupMachine keyOf).run xs = (dkeys keyOf xs).flatMap (grp keyOf xs) := by
  have hstep : ∀ m r, (groupMachine keyOf).step m r
      = (keyedStep keyOf (fun o r => o.getD [] ++ [r]) m r, []) := by
    intro m r
    simp only [groupMachine, keyedStep]
    cases keyOf r <;> rfl
  rw [Machine.run, run_silent _ _ hstep]
  simp [groupMachine, foldl_collect, perGroup, List.flatMap_def, Function.comp_def]

theorem filterHist_sublist (keep : List Rec → Rec → Bool) (pre xs : List Rec) :
    List.Sublist (filterHist keep pre xs) xs := by
  induction xs generalizing pre with
  | nil => simp [filterHist]
  | cons r rest ih =>
    rw [filterHist]
    split
    · exact (ih _).cons_cons r
    · exact (ih _).cons r

/-- Two history filters that between them keep exactly the records satisfying `c`, each once. -/
theorem filterHist_length_add (p q : List Rec → Rec → Bool) (c : Rec → Bool)
    (h : ∀ pre r, (p pre r).toNat + (q pre r).toNat = (c r).toNat) (pre xs : List Rec) :
    (filterHist p pre xs).length + (filterHist q pre xs).length = (xs.filter c).length := by
  induction xs generalizing pre with
  | nil => rfl
  | cons r rest ih =>
    have hr := h pre r
    have hrest := ih (pre ++ [r])
    simp only [filterHist, List.filter_cons, List.length_append]
    cases hp : p pre r <;> cases hq : q pre r <;> cases hc : c r <;> simp [hp, hq, hc] at hr ⊢ <;> omega

/-- Decoder of `joinKey`: `cur` is the component being read, `esc` says that the byte before was
an escaping backslash. -/
def decKey : Bytes → Bool → Bytes → List Bytes
  | [], _, cur => [cur]
  | c :: rest, true, cur => decKey rest false (cur ++ [c])
  | c :: rest, false, cur =>
    if c = 92 then decKey rest true cur
    else if c = 44 then cur :: decKey rest false []
    else decKey rest false (cur ++ [c])

theorem dec_esc (v tail cur : Bytes) :
    decKey (escComp v ++ tail) false cur = decKey tail false (cur ++ v) := by
  induction v generalizing cur with
  | nil => simp [escComp]
  | cons c v ih =>
    unfold escComp
    split
    · simp [decKey, ih]
    · next h => simp [decKey, ih, not_or.mp h]

theorem dec_joinKey (v : Bytes) (vs : List Bytes) : decKey (joinKey (v :: vs)) false [] = v :: vs := by
  induction vs generalizing v with
  | nil => simpa [joinKey, decKey] using dec_esc v [] []
  | cons w rest ih => simp [joinKey, dec_esc, decKey, ih]

theorem joinKey_injective (a b : List Bytes) (hl : a.length = b.length) (h : joinKey a = joinKey b) : a = b := by
  cases a <;> cases b <;> simp at hl
  · rfl
  · simpa [dec_joinKey] using congrArg (decKey · false []) h

/-- The form in which the verbs meet it: two records with the same key, made of the values of
equally many fields, have the same values. -/
theorem mapM_eq_of_joinKey_eq {α β} (f : α → Option Bytes) (g : β → Option Bytes) {l : List α} {l' : List β}
    {k : Bytes} (hf : (l.mapM f).map joinKey = some k) (hg : (l'.mapM g).map joinKey = some k)
    (hlen : l.length = l'.length) : l.mapM f = l'.mapM g := by
  obtain ⟨a, ha, rfl⟩ := Option.map_eq_some_iff.mp hf
  obtain ⟨b, hb, hab⟩ := Option.map_eq_some_iff.mp hg
  rw [ha, hb, joinKey_injective b a (by rw [mapM_length _ _ _ ha, mapM_length _ _ _ hb, hlen]) hab]

end Lemmas.C11
end Miller
