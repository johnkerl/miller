/-
Lemmas for C13: the left buckets are the groups of the left records by join key.
-/
import MillerModel.Model.Verbs.Join
import MillerModel.Lemmas.C11
namespace Miller
namespace Lemmas.C13
open Verbs Lemmas.C11

theorem bucketsOf_eq (keyOf : Rec → Option Bytes) (ls : List Rec) : bucketsOf keyOf ls = perGroup keyOf id ls :=
  foldl_collect keyOf ls

/-- Looking a key up in the buckets gives exactly the left records with that key, in file order;
there is a bucket iff there is such a record. -/
theorem bucket_lookup (keyOf : Rec → Option Bytes) (ls : List Rec) (k : Bytes) :
    (bucketsOf keyOf ls).get? k = (if grp keyOf ls k = [] then none else some (grp keyOf ls k)) :=
  bucketsOf_eq keyOf ls ▸ get?_perGroup keyOf id ls k

theorem jkey_some (fields : List Bytes) (ie : Bool) (r : Rec) (k : Bytes) (h : jkey fields ie r = some k) :
    (fields.mapM (get r)).map joinKey = some k := by
  unfold jkey at h
  split at h
  · simp at h
  · next vs hv =>
    split at h
    · simp at h
    · rw [hv]
      exact h

end Lemmas.C13
end Miller
