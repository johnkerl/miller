/-
Record surgery of the restructuring verbs (`Model/Verbs/Restructure.lean`): `get` / `has` / `remove`
on association lists, `rename` where the new name is fresh, `cut` as complementary filters,
`unsparsify`'s union of names.
-/
import MillerModel.Model.Verbs.Restructure
import MillerModel.Lemmas.VerbLaws
namespace Miller
namespace Lemmas.C12
open Verbs Lemmas.VerbLaws

theorem foldl_remove (fields : List Bytes) (r : Rec) :
    fields.foldl remove r = r.filter (fun p => !fields.contains p.1) := by
  induction fields generalizing r with
  | nil => exact (List.filter_eq_self.mpr (by simp)).symm
  | cons f fs ih =>
    simp only [List.foldl_cons, ih, remove, List.filter_filter]
    congr 1
    funext p
    simp only [List.contains_cons, Bool.not_or, bne, Bool.and_comm]

theorem cut_complement (fields : List Bytes) (r : Rec) :
    List.Perm (cutInclude fields r ++ cutExclude fields r) r ∧
    List.Sublist (cutInclude fields r) r ∧ List.Sublist (cutExclude fields r) r := by
  unfold cutInclude cutExclude
  rw [foldl_remove]
  exact ⟨List.filter_append_perm _ r, List.filter_sublist, List.filter_sublist⟩

theorem has_eq_isSome (r : Rec) (k : Bytes) : has r k = (Verbs.get r k).isSome := by
  rw [has, Verbs.get, Option.isSome_map, Bool.eq_iff_iff, List.find?_isSome, List.any_eq_true]

/-- Giving the entries named `x` the name `y` (and any value) leaves every other name's value alone. -/
theorem get_rekey (r : Rec) (x y k : Bytes) (g : Bytes × Bytes → Bytes) (hx : k ≠ x) (hy : k ≠ y) :
    Verbs.get (r.map fun p => if p.1 == x then (y, g p) else p) k = Verbs.get r k := by
  unfold Verbs.get
  induction r with
  | nil => rfl
  | cons p r ih =>
    rw [List.map_cons, List.find?_cons, List.find?_cons]
    by_cases hp : p.1 = x
    · rw [if_pos (beq_iff_eq.mpr hp), beq_false_of_ne (Ne.symm hy), hp, beq_false_of_ne (Ne.symm hx)]
      exact ih
    · rw [if_neg (mt beq_iff_eq.mp hp)]
      cases p.1 == k
      · exact ih
      · rfl

theorem get_remove (r : Rec) (a k : Bytes) (h : k ≠ a) : Verbs.get (remove r a) k = Verbs.get r k := by
  unfold Verbs.get remove
  rw [List.find?_filter]
  congr 2
  funext p
  by_cases hp : p.1 = k <;> simp [hp, h]

/-- Renaming to a name the record does not have renames in place. -/
theorem rename_fresh (r : Rec) (a b : Bytes) (hb : has r b = false) (hab : a ≠ b) :
    rename r a b = r.map fun p => if p.1 == a then (b, p.2) else p := by
  unfold rename
  cases h : Verbs.get r a with
  | none =>
    have := List.find?_eq_none.mp (Option.map_eq_none_iff.mp h)
    exact ((List.map_congr_left fun p hp => if_neg (this p hp)).trans (List.map_id r)).symm
  | some v => simp [hb, hab]

theorem rename_inverse (r : Rec) (a b : Bytes) (hb : has r b = false) (hab : a ≠ b) :
    rename (rename r a b) b a = r := by
  have hmem : ∀ p ∈ r, p.1 ≠ b := by simpa [has] using hb
  -- in the renamed record `a` is gone, so the way back is in place too
  rw [rename_fresh r a b hb hab, rename_fresh _ b a ?_ (Ne.symm hab), List.map_map]
  · refine (List.map_congr_left fun p hp => ?_).trans (List.map_id r)
    by_cases hpa : p.1 = a
    · simp [← hpa]
    · simp [hpa, hmem p hp]
  · simp only [has, List.any_map, List.any_eq_false]
    intro p _
    by_cases hpa : p.1 = a <;> simp [hpa, Ne.symm hab]

/-- Union of all field names in first-seen order. -/
def unionKeysFrom (seen : List Bytes) (xs : List Rec) : List Bytes := xs.foldl (fun s r => r.keys.foldl addNew s) seen

theorem unsparsify_spec (fill : Bytes) (xs : List Rec) :
    (unsparsify fill).run xs
      = xs.map (fun r => (unionKeysFrom [] xs).map fun k => (k, (Verbs.get r k).getD fill)) := by
  -- the state after `xs`: the names seen so far and the records themselves
  have hfold : ∀ s : List Bytes × List Rec,
      xs.foldl (fun s r => (r.keys.foldl addNew s.1, s.2 ++ [r])) s = (unionKeysFrom s.1 xs, s.2 ++ xs) := by
    induction xs with
    | nil => simp [unionKeysFrom]
    | cons r xs ih => simp [ih, unionKeysFrom]
  rw [Machine.run, run_silent (unsparsify fill) _ (fun _ _ => rfl), hfold]
  rfl

theorem unsparsify_rectangular (fill : Bytes) (xs : List Rec) :
    ∀ out ∈ (unsparsify fill).run xs, out.keys = unionKeysFrom [] xs := by
  intro out hout
  rw [unsparsify_spec] at hout
  obtain ⟨r, _, rfl⟩ := List.mem_map.mp hout
  simp [Rec.keys, Function.comp_def]

end Lemmas.C12
end Miller
