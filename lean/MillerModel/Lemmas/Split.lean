/-
Facts about `Base/Split.lean`: splitting on one byte undoes joining with it (TSV lines, flattened key
paths), by an accumulator argument that the CSV reader's unquoted-field scanner shares.
-/
import MillerModel.Base.Split
namespace Miller
namespace Lemmas.Split

theorem scan_append {β : Type} (scan : Bytes → Bytes → β) (pass : Nat → Prop)
    (step : ∀ c r acc, pass c → scan (c :: r) acc = scan r (acc ++ [c]))
    (x rest acc : Bytes) (hx : ∀ c ∈ x, pass c) : scan (x ++ rest) acc = scan rest (acc ++ x) := by
  induction x generalizing acc with
  | nil => simp
  | cons c cs ih =>
    obtain ⟨hc, hcs⟩ := List.forall_mem_cons.mp hx
    rw [List.cons_append, step c _ acc hc, ih _ hcs]
    simp

theorem splitByte_append_free (b : Nat) (x : Bytes) (hx : b ∉ x) (rest cur : Bytes) :
    Split.splitByte b (x ++ rest) cur = Split.splitByte b rest (cur ++ x) :=
  scan_append (Split.splitByte b) (· ≠ b) (fun c r acc h => by simp [Split.splitByte, h]) x rest cur
    (fun c hc h => hx (h ▸ hc))

theorem splitByte_join (b : Nat) (x : Bytes) (xs : List Bytes) (hfree : ∀ y ∈ x :: xs, b ∉ y) (cur : Bytes) :
    Split.splitByte b (Split.join [b] (x :: xs)) cur = (cur ++ x) :: xs := by
  induction xs generalizing x cur with
  | nil => simpa [Split.join, Split.splitByte] using splitByte_append_free b x (hfree x (by simp)) [] cur
  | cons y ys ih =>
    obtain ⟨hx, hys⟩ := List.forall_mem_cons.mp hfree
    rw [Split.join, List.append_assoc, splitByte_append_free b x hx]
    simp [Split.splitByte, ih y hys]

theorem not_mem_join {c x : Nat} {xs : List Bytes} (hc : x ≠ c) (h : ∀ y ∈ xs, x ∉ y) : x ∉ Split.join [c] xs := by
  fun_induction Split.join [c] xs <;> simp_all

end Lemmas.Split
end Miller
