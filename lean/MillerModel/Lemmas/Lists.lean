/-
General facts about lists (core only) that several parts of the development use: the fold that
keeps first appearances (`addKey`, `Verbs.addNew` and the step of `Verbs.uniqNames` are this one
function), insertion sorts, `mapM` into `Option`, multiplicities that add up to the length.
-/
namespace Miller
namespace Lemmas.Lists

theorem mem_foldl_addNew {α} [BEq α] [LawfulBEq α] (l acc : List α) (x : α) :
    x ∈ l.foldl (fun acc y => if acc.contains y then acc else acc ++ [y]) acc ↔ x ∈ acc ∨ x ∈ l := by
  induction l generalizing acc with
  | nil => simp
  | cons y l ih =>
    rw [List.foldl_cons, ih]
    split
    · next h =>
      have hy : y ∈ acc := by simpa using h
      by_cases hx : x = y <;> simp [hx, hy]
    · simp [or_assoc]

theorem nodup_foldl_addNew {α} [BEq α] [LawfulBEq α] (l acc : List α) (h : acc.Nodup) :
    (l.foldl (fun acc y => if acc.contains y then acc else acc ++ [y]) acc).Nodup := by
  refine List.foldlRecOn l _ h fun acc h y _ => ?_
  split
  · exact h
  · next hy =>
    refine List.nodup_append.mpr ⟨h, by simp, fun a ha b hb e => hy ?_⟩
    rwa [List.contains_iff_mem, ← List.mem_singleton.mp hb, ← e]

theorem foldl_snoc {α} (g acc : List α) : g.foldl (fun acc r => acc ++ [r]) acc = acc ++ g := by
  induction g generalizing acc with
  | nil => simp
  | cons r g ih => simp [ih]

theorem flatMap_congr_on {α β} (l : List α) (f g : α → List β) (h : ∀ x ∈ l, f x = g x) :
    l.flatMap f = l.flatMap g := by
  rw [List.flatMap_def, List.flatMap_def, List.map_congr_left h]

/-- Insertion sort permutes, whatever the order inserted by: each insertion puts `x` before the head
or goes on into the tail (`h1`: the definition of `ins` is such an `if`), so it puts it somewhere. -/
theorem perm_insertionSort {α} (ins : α → List α → List α) (h0 : ∀ x, ins x [] = [x])
    (h1 : ∀ x y l, ∃ (c : Prop) (_ : Decidable c), ins x (y :: l) = if c then x :: y :: l else y :: ins x l)
    (l : List α) : (l.foldl (fun acc x => ins x acc) []).Perm l := by
  have hins : ∀ x l, (ins x l).Perm (x :: l) := by
    intro x l
    induction l with
    | nil => rw [h0]
    | cons y l ih =>
      obtain ⟨c, _, h⟩ := h1 x y l
      rw [h]
      split
      · exact List.Perm.refl _
      · exact (ih.cons y).trans (List.Perm.swap x y l)
  suffices h : ∀ acc, (l.foldl (fun acc x => ins x acc) acc).Perm (l ++ acc) by simpa using h []
  induction l with
  | nil => exact fun _ => List.Perm.refl _
  | cons x l ih => exact fun acc => (ih _).trans (((hins x acc).append_left l).trans List.perm_middle)

theorem mapM_take {α β : Type} (f : α → Option β) (l : List α) (ys : List β) (i : Nat) (h : l.mapM f = some ys) :
    (l.take i).mapM f = some (ys.take i) := by
  induction l generalizing ys i with
  | nil => simp_all
  | cons x xs ih =>
    cases i with
    | zero => simp
    | succ i =>
      simp only [List.mapM_cons, Option.pure_def, Option.bind_eq_bind, Option.bind_eq_some_iff, Option.some.injEq] at h
      obtain ⟨y, hy, zs, hzs, rfl⟩ := h
      simp [hy, ih zs i hzs]

theorem mapM_length {α β} (f : α → Option β) (l : List α) (r : List β) (h : l.mapM f = some r) :
    r.length = l.length := by
  induction l generalizing r with
  | nil => simp_all
  | cons x xs ih =>
    simp only [List.mapM_cons, Option.bind_eq_bind, Option.bind_eq_some_iff, Option.pure_def,
      Option.some.injEq] at h
    obtain ⟨y, _, ys, hys, rfl⟩ := h
    simp [ih ys hys]

theorem sum_map_add_indicator {α} [BEq α] [LawfulBEq α] (D : List α) (f : α → Nat) (a : α) :
    (D.map fun k => f k + if a == k then 1 else 0).sum = (D.map f).sum + D.count a := by
  induction D with
  | nil => rfl
  | cons d D ih =>
    simp only [List.map_cons, List.sum_cons, ih, List.count_cons, BEq.comm]
    omega

/-- The multiplicities of the distinct elements of a list add up to its length (`D` lists every
element of `l` once): consing `a` adds one to the count of `a` and to no other. -/
theorem sum_count_eq_length {α} [BEq α] [LawfulBEq α] (D l : List α) (hD : D.Nodup) (h : ∀ x ∈ l, x ∈ D) :
    (D.map (l.count ·)).sum = l.length := by
  induction l with
  | nil => induction D <;> simp_all
  | cons a l ih =>
    simp only [List.forall_mem_cons] at h
    simp only [List.count_cons, sum_map_add_indicator, hD.count, h.1, ih h.2, if_true, List.length_cons]

end Lemmas.Lists
end Miller
