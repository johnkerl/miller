/-
Lemmas for C20: association-list facts, what one write does to the fan-out manager, and the two
invariants of a run.
-/
import MillerModel.Model.Fanout
namespace Miller
namespace Lemmas.C20
open Fanout

theorem docsOf_cons (p : Nat × List Doc) (fs : Files) (t : Nat) :
    docsOf (p :: fs) t = if p.1 = t then p.2 else docsOf fs t := by
  by_cases h : p.1 = t <;> simp [docsOf, h]

theorem docsOf_setDocs (fs : Files) (t t' : Nat) (ds : List Doc) :
    docsOf (setDocs fs t ds) t' = if t = t' then ds else docsOf fs t' := by
  induction fs with
  | nil => exact docsOf_cons (t, ds) [] t'
  | cons p fs ih =>
    simp only [setDocs, beq_iff_eq, apply_ite (docsOf · t'), docsOf_cons, ih]
    grind

theorem appendLast_snoc (ds : List Doc) (d : Doc) (r : Rec) : appendLast (ds ++ [d]) r = ds ++ [d ++ [r]] := by
  induction ds with
  | nil => rfl
  | cons e es ih =>
    cases es with
    | nil => simp [appendLast]
    | cons f fs =>
      simp only [List.cons_append, appendLast] at ih ⊢
      rw [ih]

theorem flatten_appendLast (ds : List Doc) (r : Rec) : (appendLast ds r).flatten = ds.flatten ++ [r] := by
  rcases List.eq_nil_or_concat ds with rfl | ⟨ds', d, rfl⟩
  · rfl
  · rw [List.concat_eq_append, appendLast_snoc]
    simp

theorem routed_snoc (seen : List (Nat × Rec)) (t t' : Nat) (r : Rec) :
    routed (seen ++ [(t, r)]) t' = routed seen t' ++ if t' = t then [r] else [] := by
  by_cases h : t' = t <;> simp [routed, h, Ne.symm]

/-- Eviction moves at most the last open target to the front of the evicted ones. -/
theorem evictStep_split (cap : Nat) (openT evicted : List Nat) :
    ∃ l, openT = (evictStep cap openT evicted).1 ++ l ∧ (evictStep cap openT evicted).2 = l ++ evicted := by
  unfold evictStep
  split
  · split
    · next a h =>
      obtain ⟨ys, rfl⟩ := List.getLast?_eq_some_iff.mp h
      exact ⟨[a], by rw [List.dropLast_concat], rfl⟩
    · exact ⟨[], by simp, rfl⟩
  · exact ⟨[], by simp, rfl⟩

theorem evictStep_of_room (cap : Nat) (openT evicted : List Nat) (h : openT.length < cap) :
    evictStep cap openT evicted = (openT, evicted) := by
  simp [evictStep, Nat.not_le.mpr h]

theorem write_of_open (cap : Nat) (am : Bool) (s : St) (t : Nat) (r : Rec) (h : t ∈ s.openT) :
    write cap am s t r
      = { s with openT := t :: s.openT.erase t, files := setDocs s.files t (appendLast (docsOf s.files t) r) } := by
  simp [write, h]

theorem write_of_closed (cap : Nat) (am : Bool) (s : St) (t : Nat) (r : Rec) (h : t ∉ s.openT) :
    write cap am s t r
      = { openT := t :: (evictStep cap s.openT s.evicted).1,
          evicted := (evictStep cap s.openT s.evicted).2.filter (· != t),
          files := setDocs s.files t ((if am ∨ t ∈ s.evicted then docsOf s.files t else []) ++ [[r]]) } := by
  obtain ⟨l, h1, h2⟩ := evictStep_split cap s.openT s.evicted
  have : t ∉ l := fun hl => h (by rw [h1]; exact List.mem_append_right _ hl)
  simp [write, h, h2, this]

theorem mem_write (cap : Nat) (am : Bool) (s : St) (t : Nat) (r : Rec) (t' : Nat) :
    t' ∈ (write cap am s t r).openT ∨ t' ∈ (write cap am s t r).evicted ↔ t' = t ∨ t' ∈ s.openT ∨ t' ∈ s.evicted := by
  by_cases h : t ∈ s.openT
  · rw [write_of_open _ _ _ _ _ h]
    by_cases ht : t' = t <;> simp [ht, h]
  · rw [write_of_closed _ _ _ _ _ h]
    obtain ⟨l, h1, h2⟩ := evictStep_split cap s.openT s.evicted
    rw [h2]
    conv => rhs; rw [h1]
    by_cases ht : t' = t <;> simp [ht, or_assoc]

theorem docsOf_write_other (cap : Nat) (am : Bool) (s : St) (t : Nat) (r : Rec) (t' : Nat) (h : t' ≠ t) :
    docsOf (write cap am s t r).files t' = docsOf s.files t' := by
  unfold write
  split <;> simp [docsOf_setDocs, Ne.symm h]

theorem flatten_docsOf_write (cap : Nat) (am : Bool) (s : St) (t : Nat) (r : Rec) :
    (docsOf (write cap am s t r).files t).flatten
      = (if am ∨ t ∈ s.openT ∨ t ∈ s.evicted then (docsOf s.files t).flatten else []) ++ [r] := by
  by_cases h : t ∈ s.openT
  · simp [write_of_open _ _ _ _ _ h, docsOf_setDocs, flatten_appendLast, h]
  · rw [write_of_closed _ _ _ _ _ h]
    simp only [docsOf_setDocs, if_true, h, false_or]
    split <;> simp

/-- What a target's file holds before the run's own records: its previous records in append mode,
nothing in write mode (the first open truncates). -/
def base (am : Bool) (f0 : Files) (t : Nat) : List Rec := if am then (docsOf f0 t).flatten else []

/-- The manager after the writes `seen`, target by target.  A target written to is still known (open,
or remembered as evicted, so that a re-open appends) and its file, read document after document,
holds `base` followed by its records in stream order; a target not written to is unknown to the
manager and its file is as it was. -/
structure Inv (am : Bool) (f0 : Files) (s : St) (seen : List (Nat × Rec)) : Prop where
  live : ∀ t, routed seen t ≠ [] → t ∈ s.openT ∨ t ∈ s.evicted
  content : ∀ t, routed seen t ≠ [] → (docsOf s.files t).flatten = base am f0 t ++ routed seen t
  fresh : ∀ t, routed seen t = [] → docsOf s.files t = docsOf f0 t ∧ t ∉ s.openT ∧ t ∉ s.evicted

theorem inv_init (am : Bool) (f0 : Files) : Inv am f0 { files := f0 } [] :=
  ⟨fun _ h => absurd rfl h, fun _ h => absurd rfl h, fun _ _ => ⟨rfl, List.not_mem_nil, List.not_mem_nil⟩⟩

theorem inv_step (cap : Nat) (am : Bool) (f0 : Files) (s : St) (seen : List (Nat × Rec)) (t : Nat) (r : Rec)
    (h : Inv am f0 s seen) : Inv am f0 (write cap am s t r) (seen ++ [(t, r)]) := by
  have hmem := mem_write cap am s t r
  refine ⟨fun t' ht' => ?_, fun t' ht' => ?_, fun t' ht' => ?_⟩
  · rw [hmem]
    by_cases htt : t' = t
    · exact Or.inl htt
    · exact Or.inr (h.live t' (by simpa [routed_snoc, htt] using ht'))
  · by_cases htt : t' = t
    · subst htt
      rw [flatten_docsOf_write, routed_snoc]
      by_cases hr : routed seen t' = []
      · simp [h.fresh t' hr, hr, base]
      · simp [h.live t' hr, h.content t' hr]
    · rw [routed_snoc, if_neg htt, List.append_nil] at ht' ⊢
      rw [docsOf_write_other _ _ _ _ _ _ htt]
      exact h.content t' ht'
  · obtain ⟨hr, htt⟩ : routed seen t' = [] ∧ t' ≠ t := by simpa [routed_snoc] using ht'
    have hf := h.fresh t' hr
    rw [docsOf_write_other _ _ _ _ _ _ htt, ← not_or, hmem]
    exact ⟨hf.1, by simp [htt, hf.2]⟩

theorem run_induction (cap : Nat) (am : Bool) (P : St → List (Nat × Rec) → Prop) (hist : List (Nat × Rec))
    (hstep : ∀ s seen w, w ∈ hist → P s seen → P (write cap am s w.1 w.2) (seen ++ [w]))
    (s : St) (seen : List (Nat × Rec)) (h : P s seen) : P (run cap am s hist) (seen ++ hist) := by
  induction hist generalizing s seen with
  | nil => simpa [run] using h
  | cons w hist ih =>
    simpa [run] using
      ih (fun s seen v hv => hstep s seen v (List.mem_cons_of_mem _ hv)) _ _ (hstep s seen w (List.mem_cons_self ..) h)

theorem inv_run (cap : Nat) (am : Bool) (f0 : Files) (hist : List (Nat × Rec)) :
    Inv am f0 (run cap am { files := f0 } hist) hist :=
  run_induction cap am (Inv am f0) hist (fun s seen w _ => inv_step cap am f0 s seen w.1 w.2) _ [] (inv_init am f0)

/-- While all targets fit into the handle cache (`D` lists them) nothing is evicted, and each file
written to holds one document after what it held before. -/
structure WInv (am : Bool) (f0 : Files) (D : List Nat) (s : St) (seen : List (Nat × Rec)) : Prop where
  inv : Inv am f0 s seen
  noEvict : s.evicted = []
  nodup : s.openT.Nodup
  sub : ∀ t ∈ s.openT, t ∈ D
  one : ∀ t, routed seen t ≠ [] → docsOf s.files t = (if am then docsOf f0 t else []) ++ [routed seen t]

theorem winv_step (cap : Nat) (am : Bool) (f0 : Files) (D : List Nat) (hD : D.length ≤ cap)
    (s : St) (seen : List (Nat × Rec)) (t : Nat) (r : Rec) (ht : t ∈ D)
    (h : WInv am f0 D s seen) : WInv am f0 D (write cap am s t r) (seen ++ [(t, r)]) := by
  have hinv := inv_step cap am f0 s seen t r h.inv
  have hone : ∀ t', t' ≠ t → routed (seen ++ [(t, r)]) t' ≠ [] →
      docsOf (write cap am s t r).files t' = (if am then docsOf f0 t' else []) ++ [routed (seen ++ [(t, r)]) t'] := by
    intro t' htt ht'
    rw [routed_snoc, if_neg htt, List.append_nil] at ht' ⊢
    rw [docsOf_write_other _ _ _ _ _ _ htt, h.one t' ht']
  by_cases ho : t ∈ s.openT
  · have hro : routed seen t ≠ [] := fun he => (h.inv.fresh t he).2.1 ho
    -- moving `t` to the front permutes the open targets
    have hperm := List.perm_cons_erase ho
    rw [write_of_open _ _ _ _ _ ho] at hinv hone ⊢
    refine ⟨hinv, h.noEvict, hperm.nodup h.nodup, fun t' h1 => h.sub t' (hperm.mem_iff.mpr h1), fun t' ht' => ?_⟩
    by_cases htt : t' = t
    · subst htt
      simp only [docsOf_setDocs, if_true]
      rw [h.one t' hro, appendLast_snoc, routed_snoc, if_pos rfl]
    · exact hone t' htt ht'
  · -- pigeonhole: the open targets and `t` are distinct members of `D`, so there is room and nothing is evicted
    have hroom : s.openT.length < cap :=
      Nat.lt_of_lt_of_le (List.Nodup.length_le_of_subset (List.nodup_cons.mpr ⟨ho, h.nodup⟩)
        (List.cons_subset.mpr ⟨ht, fun _ => h.sub _⟩)) hD
    have hro : routed seen t = [] := Classical.byContradiction fun hne => by
      have := h.inv.live t hne
      simp [ho, h.noEvict] at this
    rw [write_of_closed _ _ _ _ _ ho, evictStep_of_room _ _ _ hroom, h.noEvict] at hinv hone ⊢
    refine ⟨hinv, rfl, List.nodup_cons.mpr ⟨ho, h.nodup⟩, List.forall_mem_cons.mpr ⟨ht, h.sub⟩, fun t' ht' => ?_⟩
    by_cases htt : t' = t
    · subst htt
      simp only [docsOf_setDocs, if_true, List.not_mem_nil, or_false, routed_snoc, hro, (h.inv.fresh t' hro).1, List.nil_append]
    · exact hone t' htt ht'

theorem winv_run (cap : Nat) (am : Bool) (f0 : Files) (D : List Nat) (hD : D.length ≤ cap)
    (hist : List (Nat × Rec)) (hh : ∀ w ∈ hist, w.1 ∈ D) : WInv am f0 D (run cap am { files := f0 } hist) hist :=
  run_induction cap am (WInv am f0 D) hist (fun s seen w hw => winv_step cap am f0 D hD s seen w.1 w.2 (hh w hw)) _ []
    ⟨inv_init am f0, rfl, List.nodup_nil, fun _ h => absurd h List.not_mem_nil, fun _ h => absurd rfl h⟩

end Lemmas.C20
end Miller
