/-
Lemmas about dispatch through the disposition tables (`Model/Disp`): a cell whose kernel acquires
only payloads its operands have cannot panic (used by C18), and the variadic min/max of Props/C08.
-/
import MillerModel.Spec.NullData
namespace Miller
namespace Lemmas.C08
open Gen Disp Spec.NullData

theorem kind_mem_kinds (v : Val) : v.kind ∈ kinds :=
  List.mem_range.mpr (by cases v <;> simp [Val.kind])

theorem acqOk_iff (q : Acq) (v : Val) : acqOk q v = true ↔
    match q with
    | .int => ∃ x, v = .int x | .float => ∃ x, v = .float x | .bool => ∃ x, v = .bool x
    | .string => (∃ s, v = .str s) ∨ v = .void
    | .bytes => v = .bytes | .array => v = .array | .map => v = .map := by
  cases q <;> cases v <;> simp [acqOk]

/-- The hand-written arms of `typedKernel` agree with the regenerated signatures: whatever payloads
the signature of a kernel acquires, the arm of that kernel takes apart no others. -/
theorem typedKernel_ne_panic {k : K} {a b : Val} (h : sigOk (kernelSig k) a b = true) :
    typedKernel k a b ≠ .panic := by
  unfold typedKernel
  dsimp only
  split
  -- the last arm: a kernel outside the model
  rotate_right
  · nofun
  -- every other arm names its kernel: evaluate that kernel's signature (`whnf` on the one subterm;
  -- `simp` with the equations of the 240-arm `kernelSig` is far slower) and read off the payloads
  all_goals
    conv at h => lhs; arg 1; whnf
    simp only [sigOk, List.all_cons, List.all_nil, Bool.and_true, Bool.true_and, Bool.and_eq_true,
      acqOk_iff] at h
  -- the last four kernels: bool min/max acquire one operand only, string min/max take STRING or VOID
  rotate_right 4
  · obtain ⟨x, rfl⟩ := h
    cases x <;> cases b <;> nofun
  · obtain ⟨y, rfl⟩ := h
    cases y <;> cases a <;> nofun
  · rcases h with ⟨⟨x, rfl⟩ | rfl, ⟨y, rfl⟩ | rfl⟩ <;> nofun
  · rcases h with ⟨⟨x, rfl⟩ | rfl, ⟨y, rfl⟩ | rfl⟩ <;> nofun
  all_goals
    obtain ⟨⟨x, rfl⟩, y, rfl⟩ := h
    nofun

theorem acquired {l : List Acq} {v : Val} (hs : l.all (acqOk · v) = true) :
    (.int ∈ l → ∃ x, v = .int x) ∧ (.float ∈ l → ∃ x, v = .float x) :=
  ⟨fun h => (acqOk_iff .int v).mp (List.all_eq_true.mp hs _ h),
   fun h => (acqOk_iff .float v).mp (List.all_eq_true.mp hs _ h)⟩

theorem unegVal_ne_panic {t : List K} {v : Val} {k : K} (hk : cell1 t v.kind = some k)
    (hs : (kernelSig k).acq1.all (acqOk · v) = true) : unegVal t v ≠ .panic := by
  unfold unegVal
  rw [hk]
  dsimp only
  split
  -- the last arm: a real kernel, one of the two unary-minus kernels or outside the model
  rotate_right
  · split
    · next hk =>
      cases eq_of_beq hk
      obtain ⟨x, rfl⟩ := (acquired hs).1 (by decide)
      nofun
    split
    · next hk =>
      cases eq_of_beq hk
      obtain ⟨x, rfl⟩ := (acquired hs).2 (by decide)
      nofun
    nofun
  all_goals nofun

theorem evalUnary_ne_panic {t : List K} {v : Val} {k : K} (hk : cell1 t v.kind = some k)
    (hs : (kernelSig k).acq1.all (acqOk · v) = true) : evalUnary t v ≠ .panic := by
  unfold evalUnary
  rw [hk]
  dsimp only
  cases (kernelSig k).ret
  case other =>
    rw [hs]
    simp only [Bool.not_true, Bool.false_eq_true, if_false]
    split
    · next hk =>
      cases eq_of_beq hk
      obtain ⟨x, rfl⟩ := (acquired hs).1 (by decide)
      nofun
    split
    · next hk =>
      cases eq_of_beq hk
      obtain ⟨x, rfl⟩ := (acquired hs).2 (by decide)
      nofun
    split
    · next hk =>
      cases eq_of_beq hk
      obtain ⟨x, rfl⟩ := (acquired hs).1 (by decide)
      nofun
    nofun
  all_goals nofun

/-- `hu` is for the `_n2__` cells, which dispatch through the unary-minus vector `u`. -/
theorem evalBinary_ne_panic {t : List (List K)} {u : List K} {a b : Val} {k : K}
    (hk : cell2 t a.kind b.kind = some k) (hs : sigOk (kernelSig k) a b = true)
    (hu : unegVal u b ≠ .panic) : evalBinary t u a b ≠ .panic := by
  unfold evalBinary
  rw [hk]
  dsimp only
  cases (kernelSig k).ret
  case neg2 => exact hu
  case other =>
    rw [hs]
    exact typedKernel_ne_panic hs
  all_goals nofun

/-- The fold of `variadic` only passes on what the unary vector and the binary table yield. -/
theorem variadic_ne_panic {bt : List (List K)} {ut un : List K}
    (hb : ∀ a b, evalBinary bt un a b ≠ .panic) (hu : ∀ a, evalUnary ut a ≠ .panic) (vs : List Val) :
    variadic bt ut un vs ≠ .panic := by
  unfold variadic
  split
  · nofun
  · refine List.foldlRecOn (motive := fun o : Out => o ≠ .panic) _ _ (hu _) fun acc hacc e _ => ?_
    split
    · split
      · exact hb _ _
      · exact absurd ‹_ = Out.panic› (hu _)
      · exact absurd ‹_ = Out.panic› (hu _)
      · nofun
    · exact hacc

abbrev U := Gen.bifs_uneg_dispositions
/-- Result class of a model outcome: ints and floats are one class, empty and strings one class
(100, 101, 200, 201 are tags chosen apart from the kinds 0..11). -/
def clsV : Out → Nat
  | .val (.int _) => 100 | .val (.float _) => 100 | .val .void => 101 | .val (.str _) => 101
  | .val v => v.kind | .panic => 200 | .unmodelled => 201
def vmax (vs : List Val) : Out := variadic bifs_max_dispositions bifs_max_unary_dispositions U vs
def vmin (vs : List Val) : Out := variadic bifs_min_dispositions bifs_min_unary_dispositions U vs
/-- The kinds `max`/`min` document an order for: numbers < booleans < empty < strings. -/
def ordered : Val → Bool
  | .int _ => true | .float _ => true | .bool _ => true | .void => true | .str _ => true | _ => false

/-- The fold starts from the first argument and meets it again, hence `Int.max_self`. -/
theorem vmax_ints (v : Int) (vs : List Int) :
    vmax ((v :: vs).map Val.int) = .val (.int (vs.foldl max v)) := by
  show List.foldl _ (Out.val (.int v)) ((v :: vs).map Val.int) = _
  rw [List.foldl_map, List.foldl_hom (fun n => Out.val (.int n)) (g₁ := max), List.foldl_cons,
    Int.max_self]
  intro x y
  show Out.val (.int (if x > y then x else y)) = _
  congr 2
  omega

end Lemmas.C08
end Miller
