/-
What the theorems of `Props/C15.lean` rest on.  `decodeRune` on a well-formed sequence, stated by
payload (lead byte `0xE0 + a`, continuation bytes `128 + b`), so that encoding a scalar value and
decoding it again is a matter of its base-64 digits; the regrouping of three bytes into four sextets
behind base64; the byte facts behind the case mappings; the digit tables by evaluation.
-/
import MillerModel.Model.Strings
namespace Miller
namespace Lemmas.C15
open Strings

theorem decodeRune_ascii {b : Nat} (h : b < 128) (rest : Bytes) : decodeRune (b :: rest) = (b, 1) := by
  unfold decodeRune
  dsimp only
  rw [if_pos h]

theorem isCont_add {b : Nat} (h : b < 64) : isCont (128 + b) = true := by
  simp only [isCont, Bool.and_eq_true, decide_eq_true_eq]
  omega

/-- The range check on the second byte: narrowed from below after lead byte `x` (no overlong
forms), from above after lead byte `y` (no surrogates, nothing beyond U+10FFFF). -/
theorem second_byte_ok {b0 b x y lo hi : Nat} (hb : b < 64) (hlo : b0 = x → lo ≤ 128 + b)
    (hhi : b0 = y → 128 + b ≤ hi) :
    (decide ((if b0 == x then lo else 0x80) ≤ 128 + b) &&
      decide (128 + b ≤ (if b0 == y then hi else 0xBF))) = true := by
  grind

theorem decodeRune_two {a b : Nat} (rest : Bytes) (ha : 2 ≤ a ∧ a < 32) (hb : b < 64) :
    decodeRune ((0xC0 + a) :: (128 + b) :: rest) = (a * 64 + b, 2) := by
  unfold decodeRune
  dsimp only
  rw [if_neg (by omega), if_neg (by omega), if_pos (by omega), if_pos (isCont_add hb),
    Nat.add_sub_cancel_left, Nat.add_sub_cancel_left]

theorem decodeRune_three {a b c : Nat} (rest : Bytes) (ha : a < 16) (hb : b < 64) (hc : c < 64)
    (hlo : a = 0 → 32 ≤ b) (hhi : a = 13 → b < 32) :
    decodeRune ((0xE0 + a) :: (128 + b) :: (128 + c) :: rest) = (a * 4096 + b * 64 + c, 3) := by
  unfold decodeRune
  dsimp only
  rw [if_neg (by omega), if_neg (by omega), if_neg (by omega), if_pos (by omega),
    second_byte_ok hb (by omega) (by omega), isCont_add hc,
    Nat.add_sub_cancel_left, Nat.add_sub_cancel_left, Nat.add_sub_cancel_left]
  rfl

theorem decodeRune_four {a b c d : Nat} (rest : Bytes) (ha : a < 5) (hb : b < 64) (hc : c < 64)
    (hd : d < 64) (hlo : a = 0 → 16 ≤ b) (hhi : a = 4 → b < 16) :
    decodeRune ((0xF0 + a) :: (128 + b) :: (128 + c) :: (128 + d) :: rest)
      = (a * 262144 + b * 4096 + c * 64 + d, 4) := by
  unfold decodeRune
  dsimp only
  rw [if_neg (by omega), if_neg (by omega), if_neg (by omega), if_neg (by omega), if_pos (by omega),
    second_byte_ok hb (by omega) (by omega), isCont_add hc, isCont_add hd,
    Nat.add_sub_cancel_left, Nat.add_sub_cancel_left, Nat.add_sub_cancel_left, Nat.add_sub_cancel_left]
  rfl

/-- `k`: the fuel beyond the length of the text. -/
theorem runesAux_ascii (s : Bytes) (h : ∀ b ∈ s, b < 128) (k : Nat) : runesAux (s.length + k) s = s := by
  induction s with
  | nil => cases k <;> rfl
  | cons b rest ih =>
    obtain ⟨hb, hrest⟩ := List.forall_mem_cons.mp h
    simp only [List.length_cons, Nat.add_right_comm _ 1 k, runesAux, decodeRune_ascii hb, Nat.max_self,
      List.drop_succ_cons, List.drop_zero, ih hrest]

theorem upper_upper_byte (c : Nat) : upperByte (upperByte c) = upperByte c := by
  grind [upperByte]

theorem lower_upper_byte (c : Nat) : lowerByte (upperByte c) = lowerByte c := by
  grind [lowerByte, upperByte]

theorem b64val_b64char : ∀ n < 64, b64val (b64char n) = some n := by
  decide

theorem b64char_ne_pad : ∀ n < 64, (b64char n == 61) = false := by
  decide

/-- Three bytes regroup into four sextets and back.  A final group of one or two bytes is the case
`b = c = 0` or `c = 0`: base64 pads with zero bits. -/
theorem sextets {a b c : Nat} (ha : a < 256) (hb : b < 256) (hc : c < 256) :
    (a / 4 < 64 ∧ a % 4 * 16 + b / 16 < 64 ∧ b % 16 * 4 + c / 64 < 64 ∧ c % 64 < 64) ∧
    a / 4 * 4 + (a % 4 * 16 + b / 16) / 16 = a ∧
    (a % 4 * 16 + b / 16) % 16 * 16 + (b % 16 * 4 + c / 64) / 4 = b ∧
    (b % 16 * 4 + c / 64) % 4 * 64 + c % 64 = c := by
  grind

theorem hexVal_hexDigit : ∀ n < 16, hexVal (hexDigit n) = some n := by
  decide

end Lemmas.C15
end Miller
