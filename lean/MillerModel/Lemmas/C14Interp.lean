/-
One walk over the reference interpreter serves every property of the form "the state after a piece of
program is related to the state before it, however the piece ends": `interp_steps` says that a preorder
`R` on states which holds across each primitive state update of `Model/DSL.lean` (`StepRel R`) holds
across every run of every one of its 25 mutually recursive functions, at every fuel.  The frame-stack,
type, output and context theorems of C14 are the instances in `C14Invariants.lean`.
-/
import MillerModel.Model.DSL
namespace Miller
namespace DSL

def runM {α} (m : M α) (s : St) : Except Err α × St := (ExceptT.run m).run s

@[simp] theorem runM_pure {α} (a : α) (s : St) : runM (pure a : M α) s = (.ok a, s) := rfl
@[simp] theorem runM_bind {α β} (m : M α) (f : α → M β) (s : St) :
    runM (m >>= f) s = match runM m s with | (.ok a, s1) => runM (f a) s1 | (.error e, s1) => (.error e, s1) := by
  show (ExceptT.run (ExceptT.bind m f)) s = _
  unfold ExceptT.bind ExceptT.mk
  simp only [bind, StateT.bind, runM, ExceptT.run, StateT.run]
  cases h : m s with
  | mk r s1 => cases r <;> rfl
@[simp] theorem runM_get (s : St) : runM (get : M St) s = (.ok s, s) := rfl
@[simp] theorem runM_set (s' s : St) : runM (set s' : M Unit) s = (.ok (), s') := rfl
@[simp] theorem runM_modify (f : St → St) (s : St) : runM (modify f : M Unit) s = (.ok (), f s) := rfl
@[simp] theorem runM_failM {α} (e : Err) (s : St) : runM (failM e : M α) s = (.error e, s) := rfl
@[simp] theorem runM_throw {α} (e : Err) (s : St) : runM (throw e : M α) s = (.error e, s) := rfl
@[simp] theorem runM_liftR {α} (r : Res α) (s : St) : runM (liftR r : M α) s = (r, s) := by
  cases r <;> rfl
theorem runM_truthy_stack (v : DV) (s : St) : (runM (truthy v) s).2 = s := by
  unfold truthy
  split <;> rfl
@[simp] theorem runM_map {α β} (f : α → β) (m : M α) (s : St) :
    runM (f <$> m) s = match runM m s with | (.ok a, s1) => (.ok (f a), s1) | (.error e, s1) => (.error e, s1) := by
  have : f <$> m = m >>= fun a => pure (f a) := by congr
  rw [this, runM_bind]
  cases runM m s with
  | mk r s1 => cases r <;> rfl
theorem runM_tryCatch {α} (m : M α) (h : Err → M α) (s : St) :
    runM (tryCatch m h) s = match runM m s with | (.ok a, s1) => (.ok a, s1) | (.error e, s1) => runM (h e) s1 := by
  simp only [runM, tryCatch, tryCatchThe, MonadExceptOf.tryCatch, ExceptT.tryCatch, ExceptT.run, ExceptT.mk, bind, StateT.bind, StateT.run]
  cases hh : m s with
  | mk r s1 => cases r <;> rfl

/-- What `withStack` does, in one equation: `m` runs on the entered stack and `leave` is applied to
whatever stack it left, whether it returned or failed. -/
theorem runM_withStack {α} (enter : Stack → Stack) (leave : Stack → Stack → Stack) (m : M α) (s : St) :
    runM (withStack enter leave m) s =
      ((runM m { s with stack := enter s.stack }).1,
       { (runM m { s with stack := enter s.stack }).2 with
         stack := leave s.stack (runM m { s with stack := enter s.stack }).2.stack }) := by
  unfold withStack
  simp only [runM_bind, runM_get, runM_modify, runM_tryCatch, runM_pure, runM_throw]
  cases runM m { s with stack := enter s.stack } with
  | mk r s1 => cases r <;> rfl

/-- A slot holds a value its declared type admits, or absent: what `unset` leaves in a typed slot. -/
def Binding.wt (b : Binding) : Bool := b.ty.admits b.val || b.val.isAbsent
def Frame.wt (f : Frame) : Bool := List.all f Binding.wt

theorem any_admits (v : DV) : Ty.any.admits v = true := by
  cases v <;> rfl

/-- What a stack primitive does to the one frame it touches: the slot `find` returns takes a value its
type admits (absent, for `unset`), or a well-typed binding is appended. -/
inductive Frame.Put : Frame → Frame → Prop
  | update {f x v b} : f.find x = some b → (b.ty.admits v || v.isAbsent) = true → Frame.Put f (f.update x v)
  | append {f b} : b.wt = true → Frame.Put f (f ++ [b])

/-- ... and to the stack: at most one frame is touched. -/
inductive Stack.Put : Stack → Stack → Prop
  | refl {st} : Stack.Put st st
  | here {f f' rest} : Frame.Put f f' → Stack.Put (f :: rest) (f' :: rest)
  | there {f rest rest'} : Stack.Put rest rest' → Stack.Put (f :: rest) (f :: rest')

theorem define_put {st : Stack} {x ty v st'} (h : st.define x ty v = .ok st') : Stack.Put st st' := by
  unfold Stack.define at h
  repeat' split at h
  all_goals cases h
  exact .here (.append (by simp_all [Binding.wt]))

theorem setAtScope_put {st : Stack} {x v st'} (h : st.setAtScope x v = .ok st') : Stack.Put st st' := by
  unfold Stack.setAtScope at h
  repeat' split at h
  all_goals cases h
  · exact .here (.update ‹_› (by simp_all))
  · exact .here (.append (by simp [Binding.wt, any_admits]))

theorem setOpt_put {st : Stack} {x v st'} (h : st.setOpt x v = .ok st') : Stack.Put st st' := by
  cases x with
  | none => cases h; exact .refl
  | some x => exact setAtScope_put h

/-- `Stack.assign` on a non-empty stack: outward if `x` is not bound here but is bound further out;
otherwise it is `setAtScope` (the definition sets the one-frame stack apart and spells the latter out). -/
theorem Stack.assign_cons (f : Frame) (rest : Stack) (x : String) (v : DV) :
    Stack.assign (f :: rest) x v =
      if f.find x = none ∧ (Stack.lookup rest x).isSome then (Stack.assign rest x v).map (f :: ·)
      else Stack.setAtScope (f :: rest) x v := by
  cases rest with
  | nil => cases h : f.find x <;> simp [Stack.assign, Stack.setAtScope, Stack.lookup, h]
  | cons g r =>
    cases h : f.find x <;> simp only [Stack.assign, Stack.setAtScope, h]
    · by_cases hl : (Stack.lookup (g :: r) x).isSome = true <;> simp only [hl, true_and, if_true]
      · cases Stack.assign (g :: r) x v <;> rfl
      · simp
    · simp

theorem assign_put : ∀ {st : Stack} {x v st'}, st.assign x v = .ok st' → Stack.Put st st'
  | [], _, _, _, h => by cases h
  | f :: rest, x, v, st', h => by
    rw [Stack.assign_cons] at h
    split at h
    · cases hr : Stack.assign rest x v <;> rw [hr] at h <;> cases h
      exact .there (assign_put hr)
    · exact setAtScope_put h

theorem unset_put : ∀ (st : Stack) (x : String), Stack.Put st (st.unset x)
  | [], _ => .refl
  | f :: rest, x => by
    unfold Stack.unset
    split
    · rename_i h
      obtain ⟨b, hb⟩ := Option.isSome_iff_exists.mp h
      exact .here (.update hb (by simp [absent, DV.isAbsent]))
    · exact .there (unset_put rest x)

/-- What a relation between the state before and the state after must satisfy to hold across every
run of the interpreter: it is a preorder; it holds across each update of a single component that the
interpreter performs (the stack primitives through what they share, `Stack.Put`); and it survives the
two ways a scope is entered and left - `inNewFrame`, and `inCall` for a literal: push a frame, later
drop it; `inCall` for a named body: run on the frame alone, later put the caller's stack back.  The
frame pushed is well-typed: `[]`, or parameters that passed their gates. -/
structure StepRel (R : St → St → Prop) : Prop where
  refl : ∀ s, R s s
  trans : ∀ {a b c}, R a b → R b c → R a c
  data : ∀ s c o v, R s { s with cur := c, oos := o, filt := v }
  out : ∀ s xs, R s { s with out := s.out ++ xs }
  stack : ∀ s st, Stack.Put s.stack st → R s { s with stack := st }
  scope : ∀ s s' f, Frame.wt f = true → R { s with stack := f :: s.stack } s' → R s { s' with stack := s'.stack.drop 1 }
  call : ∀ s s' f, Frame.wt f = true → R { s with stack := [f] } s' → R s { s' with stack := s.stack }

/-- Every run of `m`, whatever its outcome, ends in a state `R`-related to the one it began in. -/
abbrev Steps (R : St → St → Prop) {α} (m : M α) : Prop := ∀ s, R s (runM m s).2

theorem paramFrame_wt : ∀ (ps : List (String × Ty)) (as : List DV), paramsAdmit ps as = true → Frame.wt (paramFrame ps as) = true
  | [], _, _ => by simp [paramFrame, Frame.wt]
  | _ :: _, [], _ => by simp [paramFrame, Frame.wt]
  | (n, ty) :: ps, a :: as, h => by
    simp only [paramsAdmit, Bool.and_eq_true] at h
    simp only [paramFrame, Frame.wt, List.all_cons, Bool.and_eq_true]
    exact ⟨by simp [Binding.wt, h.1], paramFrame_wt ps as h.2⟩

section
variable {R : St → St → Prop} (hR : StepRel R)
include hR

/-- The two bindings of a key-value loop. -/
theorem StepRel.setOpt2 {s : St} {x v y w st st'} (h : s.stack.setOpt x v = .ok st) (h' : st.setOpt y w = .ok st') :
    R s { s with stack := st' } :=
  hR.trans (hR.stack s st (setOpt_put h)) (hR.stack { s with stack := st } st' (setOpt_put h'))

/-! The rules of the walk, one per way the interpreter's functions are put together.  Each is stated
at one starting state, so that the rest of a do-block can be walked with the state `get` returned. -/

theorem steps_bind {α β} {m : M α} {f : α → M β} {s : St}
    (hm : R s (runM m s).2) (hf : ∀ a, Steps R (f a)) : R s (runM (m >>= f) s).2 := by
  rw [runM_bind]
  generalize runM m s = r at hm
  obtain ⟨_ | a, s1⟩ := r
  · exact hm
  · exact hR.trans hm (hf a s1)

/-! `get`, `liftR` and `failM` at the head of a do-block do not move the state: what follows them runs
from the same `s` (and may mention it); after a `failM` nothing runs; what `liftR r` hands on is an
`a` with `r = .ok a`, which is what the lemmas on the stack primitives ask for. -/

omit hR in
theorem steps_get_bind {β} {f : St → M β} {s : St} (hf : R s (runM (f s) s).2) : R s (runM (get >>= f) s).2 := by
  simpa using hf

theorem steps_liftR_bind {α β} {r : Res α} {f : α → M β} {s : St}
    (hf : ∀ a, r = .ok a → R s (runM (f a) s).2) : R s (runM (liftR r >>= f) s).2 := by
  cases r with
  | ok a => simpa using hf a rfl
  | error e => simpa using hR.refl s

theorem steps_failM_bind {α β} {e : Err} {f : α → M β} {s : St} : R s (runM (failM e >>= f) s).2 := by
  simpa using hR.refl s

theorem steps_tryCatch {α} {m : M α} {h : Err → M α} {s : St}
    (hm : R s (runM m s).2) (hh : ∀ e, Steps R (h e)) : R s (runM (tryCatch m h) s).2 := by
  rw [runM_tryCatch]
  generalize runM m s = r at hm
  obtain ⟨e | _, s1⟩ := r
  · exact hR.trans hm (hh e s1)
  · exact hm

omit hR in
theorem steps_ite {α} {c : Prop} [Decidable c] {a b : M α} {s : St}
    (ha : c → R s (runM a s).2) (hb : ¬ c → R s (runM b s).2) : R s (runM (if c then a else b) s).2 := by
  split
  · exact ha ‹_›
  · exact hb ‹_›

omit hR in
theorem steps_withStack {α} {enter : Stack → Stack} {leave : Stack → Stack → Stack} {m : M α} {s : St}
    (hl : ∀ s', R { s with stack := enter s.stack } s' → R s { s' with stack := leave s.stack s'.stack })
    (hm : Steps R m) : R s (runM (withStack enter leave m) s).2 := by
  rw [runM_withStack]
  exact hl _ (hm _)

theorem steps_inNewFrame {α} {m : M α} {s : St} (hm : Steps R m) : R s (runM (inNewFrame m) s).2 :=
  steps_withStack (fun s' h => hR.scope s s' [] rfl h) hm

/-- The hypothesis has the shape in which `callFn` and `call` leave the test of the parameter gates. -/
theorem steps_inCall {α} {m : M α} {s : St} {isLit : Bool} {ps : List (String × Ty)} {as : List DV}
    (hf : ¬ (!paramsAdmit ps as) = true) (hm : Steps R m) :
    R s (runM (inCall isLit (paramFrame ps as) m) s).2 := by
  have hw := paramFrame_wt ps as (by simpa using hf)
  cases isLit
  · exact steps_withStack (fun s' h => hR.call s s' _ hw h) hm
  · exact steps_withStack (fun s' h => hR.scope s s' _ hw h) hm

end

/-! A statement `P` about each of the interpreter's 25 functions at one fuel, family by family. -/

section
variable (P : ∀ {α : Type}, M α → Prop) (p : Prog) (fuel : Nat)

structure Interp.Exprs : Prop where
  eval : ∀ e, P (eval p fuel e)
  evalList : ∀ es, P (evalList p fuel es)
  evalKVs : ∀ kvs, P (evalKVs p fuel kvs)
  callFn : ∀ f args, P (callFn p fuel f args)

structure Interp.Hofs : Prop where
  hof : ∀ n args, P (hof p fuel n args)
  anyEvery : ∀ b f xs, P (anyEvery p fuel b f xs)
  mapFn : ∀ f xs, P (mapFn p fuel f xs)
  mapKV : ∀ f kvs, P (mapKV p fuel f kvs)
  foldFn : ∀ f acc xs, P (foldFn p fuel f acc xs)
  foldKV : ∀ f acc kvs, P (foldKV p fuel f acc kvs)
  sortFn : ∀ f xs, P (sortFn p fuel f xs)
  insertFn : ∀ f x ys, P (insertFn p fuel f x ys)

structure Interp.LValues : Prop where
  assignTo : ∀ lhs path v, P (assignTo p fuel lhs path v)
  unsetOne : ∀ lhs path, P (unsetOne p fuel lhs path)
  unsetList : ∀ ls, P (unsetList p fuel ls)

structure Interp.Stmts : Prop where
  execBlock : ∀ body, P (execBlock p fuel body)
  execStmts : ∀ body, P (execStmts p fuel body)
  execIf : ∀ bs els, P (execIf p fuel bs els)
  execWhile : ∀ c body, P (execWhile p fuel c body)
  execForKV : ∀ k v es body, P (execForKV p fuel k v es body)
  execForMulti : ∀ ks v sofar es body, P (execForMulti p fuel ks v sofar es body)
  forMultiOne : ∀ ks v here val body, P (forMultiOne p fuel ks v here val body)
  forCGo : ∀ c, P (forCGo p fuel c)
  execForC : ∀ c u body, P (execForC p fuel c u body)
  exec : ∀ st, P (exec p fuel st)

structure Interp : Prop
  extends Interp.Exprs P p fuel, Interp.Hofs P p fuel, Interp.LValues P p fuel, Interp.Stmts P p fuel

end

/-- The walk over one function body.  The goal is `R s (runM body s).2` throughout; what is done depends
on the head of `body`.
* The state is back at `s`: `StepRel.refl`.
* `m >>= f`: for `get`, `liftR`, `failM` the rule above; otherwise `steps_bind`: `m`, then `f` from
  whatever state `m` left.
* An `if` at the head: both branches, each with its condition as a hypothesis (`steps_ite`; `split`
  would first look for a `match` inside the condition).
* A primitive at the end of a branch is run by its equation (the `simp only`, which also unfolds what
  `Model/DSL.lean` abbreviates: `emitRec`, `bodyValue`, ...).  That leaves `s`, or `s` after one update of
  a component: a field of `StepRel`, for the stack with the lemma on the stack primitive that made it.
* A call at lower fuel: one of the induction hypotheses `ihs`.
* A scope, a call, a `tryCatch`: its rule.
* A `match` on data is split.

Only `split`, which is last, and `steps_bind`, which comes after the three rules for a particular `m`,
fit goals that an alternative before them fits; the order of the others is one of cost.  A failing rule
is cheap, it looks at the head only: the `>>=` and `if` rules, which fit most goals, stand before the
`simp only`, which goes through all of `body`, and the induction hypotheses, of which there may be many;
the scope rules, which fit few goals, after them.
`with_reducible` keeps `exact` and `apply` from unfolding the interpreter on a goal that is not theirs. -/
macro "interp_walk" hR:ident "[" ihs:term,* "]" : tactic => `(tactic| repeat' first
  | intro _
  | with_reducible exact StepRel.refl $hR _
  | with_reducible apply steps_get_bind
  | with_reducible apply steps_liftR_bind $hR
  | with_reducible apply steps_failM_bind $hR
  | with_reducible apply steps_bind $hR
  | with_reducible apply steps_ite
  | simp only [runM_pure, runM_failM, runM_set, runM_modify, runM_throw, runM_liftR, runM_truthy_stack,
      emitRec, emitRecs, emitLine, bodyValue, andThen]
  $[| with_reducible apply $ihs]*
  | with_reducible exact StepRel.data $hR _ _ _ _
  | with_reducible exact StepRel.out $hR _ _
  | (with_reducible apply StepRel.stack $hR
     first
       | exact unset_put _ _
       | exact define_put ‹_›
       | exact assign_put ‹_›
       | exact setAtScope_put ‹_›
       | exact setOpt_put ‹_›)
  | with_reducible exact StepRel.setOpt2 $hR ‹_› ‹_›
  | with_reducible apply steps_inNewFrame $hR
  | with_reducible apply steps_inCall $hR ‹_›
  | with_reducible apply steps_tryCatch $hR
  | split)

section
variable {R : St → St → Prop} (hR : StepRel R) {p : Prog} {fuel : Nat} (ih : Interp (Steps R) p fuel)
include hR ih

theorem exprs_steps : Interp.Exprs (Steps R) p (fuel + 1) where
  eval e := by
    unfold eval
    cases e <;> interp_walk hR [ih.eval, ih.evalList, ih.evalKVs, ih.callFn, ih.hof]
  evalList es := by
    unfold evalList
    cases es <;> interp_walk hR [ih.eval, ih.evalList]
  evalKVs kvs := by
    unfold evalKVs
    cases kvs <;> interp_walk hR [ih.eval, ih.evalKVs]
  callFn f args := by
    unfold callFn
    interp_walk hR [ih.execBlock]

theorem hofs_steps : Interp.Hofs (Steps R) p (fuel + 1) where
  hof n args := by
    unfold hof
    -- the arity check by hand, so that the match on name and arguments is split before the walk begins:
    -- its `simp only` would go through every arm twice before giving way to `split`
    refine fun s => steps_ite (fun _ => hR.refl s) fun _ => ?_
    split <;> interp_walk hR [ih.mapFn, ih.mapKV, ih.foldFn, ih.foldKV, ih.anyEvery, ih.sortFn]
  anyEvery b f xs := by
    unfold anyEvery
    cases xs <;> interp_walk hR [ih.callFn, ih.anyEvery]
  mapFn f xs := by
    unfold mapFn
    cases xs <;> interp_walk hR [ih.callFn, ih.mapFn]
  mapKV f kvs := by
    unfold mapKV
    cases kvs <;> interp_walk hR [ih.callFn, ih.mapKV]
  foldFn f acc xs := by
    unfold foldFn
    cases xs <;> interp_walk hR [ih.callFn, ih.foldFn]
  foldKV f acc kvs := by
    unfold foldKV
    cases kvs <;> interp_walk hR [ih.callFn, ih.foldKV]
  sortFn f xs := by
    unfold sortFn
    cases xs <;> interp_walk hR [ih.sortFn, ih.insertFn]
  insertFn f x ys := by
    unfold insertFn
    cases ys <;> interp_walk hR [ih.callFn, ih.insertFn]

theorem lvalues_steps : Interp.LValues (Steps R) p (fuel + 1) where
  assignTo lhs path v := by
    unfold assignTo
    cases lhs <;> interp_walk hR [ih.eval, ih.evalList, ih.assignTo]
  unsetOne lhs path := by
    unfold unsetOne
    cases lhs <;> interp_walk hR [ih.eval, ih.evalList, ih.unsetOne]
  unsetList ls := by
    unfold unsetList
    cases ls <;> interp_walk hR [ih.unsetOne, ih.unsetList]

theorem stmts_steps : Interp.Stmts (Steps R) p (fuel + 1) where
  execBlock body := by
    unfold execBlock
    interp_walk hR [ih.execStmts]
  execStmts body := by
    unfold execStmts
    cases body <;> interp_walk hR [ih.exec, ih.execStmts]
  execIf bs els := by
    unfold execIf
    cases bs <;> interp_walk hR [ih.eval, ih.execBlock, ih.execIf]
  execWhile c body := by
    unfold execWhile
    interp_walk hR [ih.eval, ih.execBlock, ih.execWhile]
  execForKV k v es body := by
    unfold execForKV
    cases es <;> interp_walk hR [ih.execBlock, ih.execForKV]
  execForMulti ks v sofar es body := by
    unfold execForMulti
    cases es <;> interp_walk hR [ih.forMultiOne, ih.execForMulti]
  forMultiOne ks v here val body := by
    unfold forMultiOne
    interp_walk hR [ih.execBlock, ih.execForMulti]
  forCGo c := by
    unfold forCGo
    interp_walk hR [ih.execStmts, ih.eval]
  execForC c u body := by
    unfold execForC
    interp_walk hR [ih.forCGo, ih.execBlock, ih.execStmts, ih.execForC]
  exec st := by
    unfold exec
    cases st with
    -- the optional argument is taken apart first: `split` on `.ret none` / `.ret (some e)` would leave a third,
    -- contradictory, alternative and walk it in full
    | ret e | dump e => cases e <;> interp_walk hR [ih.eval]
    | _ => interp_walk hR [ih.eval, ih.evalList, ih.assignTo, ih.unsetList, ih.execIf, ih.execWhile, ih.execBlock, ih.execForKV, ih.execForMulti, ih.execStmts, ih.execForC]

end

/-- THE INDUCTION: a relation kept by every primitive update is kept by every function of the
interpreter, for every program, at every fuel, on every outcome. -/
theorem interp_steps {R : St → St → Prop} (hR : StepRel R) (p : Prog) : ∀ fuel, Interp (Steps R) p fuel
  -- at fuel 0 every function is `failM .fuel`, which leaves the state alone
  | 0 => by constructor <;> constructor <;> intros <;> exact hR.refl
  | fuel + 1 =>
    have ih := interp_steps hR p fuel
    ⟨exprs_steps hR ih, hofs_steps hR ih, lvalues_steps hR ih, stmts_steps hR ih⟩

end DSL
end Miller
