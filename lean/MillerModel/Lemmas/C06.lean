/-
The regenerated byte tables are the grammar's character classes (`decFun` … `fltFun`); the scanner is
the grammar's `scanClass` (`findScanType_eq`); a scan class fixes the shape of the text, a numeral in
the class's digits (`scanClass_shape`); on a numeral `strconv.ParseInt` is sign split, digit fold and
range check (`parseInt_eq`); so each inferrer computes the grammar's value or, on the finding classes,
keeps a string (`infer_eq`).  9223372036854775808 is 2^63, 18446744073709551616 is 2^64.
-/
import MillerModel.Spec.NumberGrammar
namespace Miller
namespace Lemmas.C06
open Spec.NumberGrammar Scan Infer

theorem tableLookup_eq {t : List Bool} {p : Nat → Bool} (hp : ∀ c, p c = true → c < 128)
    (h : t = (List.range 128).map p) : tableLookup t = p := by
  funext c
  unfold tableLookup
  split
  next hc => simp [h, hc]
  next hc => exact (Bool.eq_false_iff.mpr fun hpc => hc (hp c hpc)).symm

theorem decFun : Scan.isDecimalDigit = isDec :=
  tableLookup_eq (by grind [isDec]) (by decide +kernel)
theorem octFun : Scan.isOctalDigit = isOct :=
  tableLookup_eq (by grind [isOct]) (by decide +kernel)
theorem hexFun : Scan.isHexDigit = isHex :=
  tableLookup_eq (by grind [isHex]) (by decide +kernel)
theorem fltFun : Scan.isFloatDigit = isFloatChar :=
  tableLookup_eq (by grind [isFloatChar, isDec]) (by decide +kernel)

theorem oct_imp_dec (c : Nat) : isOct c = true → isDec c = true := by
  simp [isOct, isDec]; omega

theorem all_dec_imp_all_float (l : Bytes) : l.all isDec = true → l.all isFloatChar = true := by
  simp only [List.all_eq_true]; intro h c hc; simp [isFloatChar, h c hc]

theorem all_oct_imp_all_dec (l : Bytes) : l.all isOct = true → l.all isDec = true := by
  simp only [List.all_eq_true]; intro h c hc; exact oct_imp_dec c (h c hc)

theorem lzLoop_eq (l : Bytes) (ao : Bool) :
    Scan.lzLoop l ao = (ao && l.all isOct, l.all isDec) := by
  induction l generalizing ao with
  | nil => simp [Scan.lzLoop]
  | cons c cs ih =>
    simp only [Scan.lzLoop, decFun, octFun]
    by_cases hd : isDec c = true
    · simp [hd, ih, Bool.and_assoc]
    · have ho : isOct c = false := Bool.eq_false_iff.mpr fun h => hd (oct_imp_dec c h)
      simp [hd, ho]

theorem positiveBinaryOrString_eq (l : Bytes) :
    Scan.positiveBinaryOrString l = (if l.all isBin then .binaryInt else .string) := by
  have : (fun c => !(decide (c < 48) || decide (c > 49))) = isBin := by
    funext c; grind [isBin]
  rw [Scan.positiveBinaryOrString, this]

theorem positiveDecimalOrFloatOrString_eq (l : Bytes) :
    Scan.positiveDecimalOrFloatOrString l =
      (if l.all isDec then .decimalInt else if l.all isFloatChar then .maybeFloat else .string) := by
  simp only [Scan.positiveDecimalOrFloatOrString, decFun, fltFun]
  by_cases hd : l.all isDec = true
  · simp [hd, all_dec_imp_all_float l hd]
  · by_cases hf : l.all isFloatChar = true <;> simp [hd, hf]

theorem splitSign_cons (c : Nat) (r : Bytes) :
    splitSign (c :: r) = if c = 45 then (true, r) else if c = 43 then (false, r) else (false, c :: r) := by
  unfold splitSign
  split <;> simp_all

/-- After the sign, the scanner and the grammar are two decision trees over the same tests, once
the scanner's helpers are read as the character classes.  A lone `.` is left out: there
`positiveNumberOrString` would answer `maybeFloat`, and `findScanType` says `string` without
calling it (after a sign, `+.`, all three say `maybeFloat`). -/
theorem positiveNumberOrString_eq (s : Bytes) (h : s ≠ [46]) :
    Scan.positiveNumberOrString (splitSign s).2 = scanClass s := by
  have hdot : (splitSign s).2 = [46] → hasSign s = true := by
    match s with
    | [] => simp [splitSign]
    | c :: r =>
      rw [splitSign_cons]; unfold hasSign
      grind
  unfold scanClass
  generalize (splitSign s).2 = body at *
  match body with
  | [] => rfl
  | [b0] =>
    simp only [Scan.positiveNumberOrString, Scan.positiveFloatOrString, decFun, fltFun]
    grind [isDec]
  | b0 :: b1 :: ds =>
    simp only [Scan.positiveNumberOrString, Scan.positiveFloatOrString, Scan.positiveHexOrString,
      Scan.positiveOctalOrString, positiveBinaryOrString_eq, decFun, fltFun, hexFun, octFun,
      lzLoop_eq, positiveDecimalOrFloatOrString_eq]
    grind [isDec]

/-- `findScanType`'s dispatch on the first byte is the sign split. -/
theorem findScanType_eq (s : Bytes) : Scan.findScanType s = scanClass s := by
  by_cases h : s = [46]
  · subst h; rfl
  · rw [← positiveNumberOrString_eq s h]
    match s with
    | [] => rfl
    | i0 :: rest =>
      have hd : (i0 ≥ 48 && i0 ≤ 57) = isDec i0 := by simp [isDec]
      simp only [Scan.findScanType, splitSign_cons, hd]
      by_cases hm : i0 = 45
      · simp [hm]
      · by_cases hp : i0 = 43
        · simp [hp]
        · simp only [hm, hp, if_false, beq_iff_eq]
          by_cases hdig : isDec i0 = true
          · simp [hdig]
          · cases rest with
            | nil => simp_all [Scan.positiveNumberOrString, decFun]
            | cons b r =>
              simp [Scan.positiveNumberOrString, decFun, hdig, positiveDecimalOrFloatOrString_eq,
                Scan.positiveFloatOrString, fltFun]

def Numeral (isD : Nat → Bool) (l : Bytes) : Prop := l ≠ [] ∧ l.all isD = true

/-- What a scan class says of the unsigned body; `drop 2` skips the prefix `0x`, `0o`, `0b`. -/
def Shape (body : Bytes) : ScanType → Prop
  | .decimalInt | .lzDecimalInt => Numeral isDec body
  | .lzOctalInt => Numeral isOct body
  | .hexInt => Numeral isHex (body.drop 2)
  | .octalInt => Numeral isOct (body.drop 2)
  | .binaryInt => Numeral isBin (body.drop 2)
  | _ => True

/-- Each integer class is returned under the very test that gives its shape; the leading `0` of
the leading-zero classes is itself octal. -/
theorem scanClass_shape (s : Bytes) : Shape (splitSign s).2 (scanClass s) := by
  unfold scanClass
  generalize (splitSign s).2 = body
  have h0 : isOct 48 = true := rfl
  match body with
  | [] => trivial
  | [b0] => grind [Shape, Numeral]
  | b0 :: b1 :: ds => grind [Shape, Numeral]

theorem nonempty_of_class (s : Bytes) (h : scanClass s ≠ .string) : s.isEmpty = false := by
  cases s with
  | nil => simp [scanClass, splitSign] at h
  | cons c r => rfl

/-- `c` is a valid digit of `base` on which Go's digit value and the grammar's agree. -/
def GoodDigit (base c : Nat) : Prop := Dec.digitVal c = some (digitVal c) ∧ digitVal c < base

theorem good_dec (c : Nat) (h : isDec c = true) : GoodDigit 10 c := by
  grind [isDec, GoodDigit, Dec.digitVal, digitVal]
theorem good_oct (c : Nat) (h : isOct c = true) : GoodDigit 8 c := by
  grind [isOct, GoodDigit, Dec.digitVal, digitVal]
theorem good_bin (c : Nat) (h : isBin c = true) : GoodDigit 2 c := by
  grind [isBin, GoodDigit, Dec.digitVal, digitVal]
theorem good_hex (c : Nat) (h : isHex c = true) : GoodDigit 16 c := by
  grind [isHex, GoodDigit, Dec.digitVal, digitVal]

theorem foldDigits_good (base : Nat) (l : Bytes) (acc : Nat) (h : ∀ c ∈ l, GoodDigit base c) :
    Dec.foldDigits base acc l = some (l.foldl (fun a c => a * base + digitVal c) acc) := by
  induction l generalizing acc with
  | nil => rfl
  | cons c cs ih =>
    have hc := h c (by simp)
    simp only [Dec.foldDigits, hc.1, hc.2, if_true, List.foldl_cons]
    exact ih _ (fun d hd => h d (by simp [hd]))

/-- `strconv.ParseInt` on sign `neg` and magnitude `n`: the int64 if it is one. -/
def toI64 (neg : Bool) (n : Nat) : Option Int :=
  if fitsI64 (signed neg n) then some (signed neg n) else none

theorem fits_of_small (neg : Bool) {n : Nat} (h : n < 9223372036854775808) :
    fitsI64 (signed neg n) = true := by
  unfold fitsI64 signed; cases neg <;> simp <;> omega

/-- The range check as Go writes it. -/
theorem toI64_eq (neg : Bool) (n : Nat) :
    toI64 neg n = if neg then (if n ≤ 9223372036854775808 then some (-(Int.ofNat n)) else none)
                  else (if n < 9223372036854775808 then some (Int.ofNat n) else none) := by
  unfold toI64 signed fitsI64
  cases neg <;> simp <;> split <;> simp <;> omega

/-- No hypothesis is needed: a second sign after the first is rejected by the fold, `+` and `-`
being no digits. -/
theorem parseInt_eq (base : Nat) (s : Bytes) :
    Dec.parseInt base s = (Dec.natOfDigits base (splitSign s).2).bind (toI64 (splitSign s).1) := by
  match s with
  | [] => rfl
  | c :: r =>
    simp only [Dec.parseInt, splitSign_cons, ← toI64_eq]
    grind

/-- Negating after the parse gives the signed value: below 2^63 nothing wraps. -/
theorem negate_small (neg : Bool) {n : Nat} (h : n < 9223372036854775808) :
    (if neg then wrap (-(Int.ofNat n)) else Int.ofNat n) = signed neg n := by
  cases neg
  · rfl
  · exact if_pos rfl ▸ wrap_of_I64 (by unfold I64; simp only [Int.ofNat_eq_natCast]; omega)

/-- The `printrep[2:]` / `printrep[3:]` of `inferHexInt` and `inferBaseInt` is in range, and is the
digit string, as soon as there is a digit after the two-byte prefix. -/
theorem skipPrefix_eq {s : Bytes} (h : prefixedDigits s ≠ []) :
    Infer.skipPrefix s = some (prefixedDigits s, (splitSign s).1) := by
  unfold prefixedDigits at *
  match s with
  | [] => exact absurd rfl h
  | c :: r =>
    rw [splitSign_cons] at h ⊢
    grind [Infer.skipPrefix, List.drop_eq_nil_iff]

section
variable {isD : Nat → Bool} {base : Nat} (hD : ∀ c, isD c = true → GoodDigit base c)
include hD

theorem natOfDigits_numeral {l : Bytes} (hl : Numeral isD l) :
    Dec.natOfDigits base l = some (value base l) := by
  simpa [Dec.natOfDigits, value, hl.1] using
    foldDigits_good base l 0 fun c hc => hD c (List.all_eq_true.mp hl.2 c hc)

theorem splitSign_numeral {l : Bytes} (hl : Numeral isD l) : splitSign l = (false, l) := by
  match l with
  | [] => rfl
  | c :: r =>
    have hc := (hD c (List.all_eq_true.mp hl.2 c List.mem_cons_self)).1
    have h45 : c ≠ 45 := by rintro rfl; simp [Dec.digitVal] at hc
    have h43 : c ≠ 43 := by rintro rfl; simp [Dec.digitVal] at hc
    rw [splitSign_cons, if_neg h45, if_neg h43]

theorem parseInt_numeral {s : Bytes} (hl : Numeral isD (splitSign s).2) :
    Dec.parseInt base s = toI64 (splitSign s).1 (value base (splitSign s).2) := by
  rw [parseInt_eq, natOfDigits_numeral hD hl]; rfl

/-- `inferBaseInt` hands the digits after the prefix to `ParseInt` and applies the sign to the
result. -/
theorem inferBaseInt_eq {s : Bytes} (hl : Numeral isD (prefixedDigits s)) :
    Infer.inferBaseInt base s = .ok (if value base (prefixedDigits s) < 9223372036854775808
      then .int (signed (splitSign s).1 (value base (prefixedDigits s))) else setFromString s) := by
  simp only [Infer.inferBaseInt, skipPrefix_eq hl.1, parseInt_eq, splitSign_numeral hD hl,
    natOfDigits_numeral hD hl, Option.bind_some, toI64_eq, Bool.false_eq_true, if_false]
  by_cases h : value base (prefixedDigits s) < 9223372036854775808
  · simp only [h, if_true, negate_small _ h]
  · simp only [h, if_false]

end

/-- A digit fold that starts from `acc` keeps `acc` as its leading part. -/
theorem foldl_bounds (base : Nat) (l : Bytes) (acc : Nat) (h : ∀ c ∈ l, digitVal c < base) :
    acc * base ^ l.length ≤ l.foldl (fun a c => a * base + digitVal c) acc
    ∧ l.foldl (fun a c => a * base + digitVal c) acc < (acc + 1) * base ^ l.length := by
  induction l generalizing acc with
  | nil => simp
  | cons c cs ih =>
    have hc : digitVal c + 1 ≤ base := h c (by simp)
    have ⟨lo, hi⟩ := ih (acc * base + digitVal c) fun d hd => h d (by simp [hd])
    have hm := Nat.mul_le_mul_right (base ^ cs.length) hc
    simp only [List.foldl_cons, List.length_cons, Nat.pow_succ', Nat.add_mul, Nat.one_mul,
      ← Nat.mul_assoc] at *
    omega

theorem value_lt (base : Nat) (l : Bytes) (h : ∀ c ∈ l, digitVal c < base) :
    value base l < base ^ l.length := by
  simpa [value] using (foldl_bounds base l 0 h).2

/-- A 16-digit hex numeral fits in 64 bits, and its top bit is set iff the leading digit is `8` or
above, which for a hex digit is Go's byte test `'8' <= c && c <= 'f'`. -/
theorem hex16_top {d0 : Nat} {dr : Bytes} (hl : (d0 :: dr).all isHex = true)
    (hlen : (d0 :: dr).length = 16) :
    (value 16 (d0 :: dr) ≥ 9223372036854775808 ↔ (56 ≤ d0 ∧ d0 ≤ 102))
    ∧ value 16 (d0 :: dr) < 18446744073709551616 := by
  rw [List.all_cons, Bool.and_eq_true] at hl
  have hb := foldl_bounds 16 dr (0 * 16 + digitVal d0) fun c hc =>
    (good_hex c (List.all_eq_true.mp hl.2 c hc)).2
  have h0 := (good_hex d0 hl.1).2
  have hv : digitVal d0 ≥ 8 ↔ (56 ≤ d0 ∧ d0 ≤ 102) := by grind [isHex, digitVal]
  rw [show dr.length = 15 from Nat.succ.inj hlen] at hb
  rw [← hv, value, List.foldl_cons]
  omega

/-- `inferHexInt` is `inferBaseInt 16` except on a 16-digit numeral with the top bit set, which it
parses unsigned and reinterprets as two's complement. -/
theorem inferHexInt_eq {s : Bytes} (hl : Numeral isHex (prefixedDigits s)) :
    Infer.inferHexInt s =
      if (prefixedDigits s).length == 16 && decide (value 16 (prefixedDigits s) ≥ 9223372036854775808)
      then .ok (.int (if (splitSign s).1 then wrap (-(u2i (value 16 (prefixedDigits s))))
                      else u2i (value 16 (prefixedDigits s))))
      else Infer.inferBaseInt 16 s := by
  simp only [Infer.inferHexInt, Infer.inferBaseInt, skipPrefix_eq hl.1]
  match prefixedDigits s, hl with
  | [], hl => exact absurd rfl hl.1
  | d0 :: dr, hl =>
    cases h16 : (d0 :: dr).length == 16
    · rfl
    · obtain ⟨htop, hlt⟩ := hex16_top hl.2 (eq_of_beq h16)
      -- Go tests the first digit (`8`..`f`) of a 16-digit numeral; that is the value test
      simp only [← Bool.decide_and, ← htop, Dec.parseUint,
        natOfDigits_numeral good_hex hl, hlt, if_true]

theorem mantLoop_digits (l : Bytes) (m : ParseFloat.Mant) (hl : l.all isDec = true) (hd : m.sawdot = false) :
    ParseFloat.mantLoop l m =
      { m with digits := l.foldl (fun a c => a * 10 + digitVal c) m.digits,
               nd := m.nd + l.length,
               sawdigits := m.sawdigits || !l.isEmpty,
               rest := [] } := by
  induction l generalizing m with
  | nil => simp [ParseFloat.mantLoop]
  | cons c cs ih =>
    rw [List.all_cons, Bool.and_eq_true] at hl
    have hc : 48 ≤ c ∧ c ≤ 57 := by simpa [isDec] using hl.1
    have h46 : (c == 46) = false := by simp; omega
    have hdig : ParseFloat.isDigit c = true := by simpa [ParseFloat.isDigit] using hc
    have hv : c - 48 = digitVal c := by simp [digitVal, hc.2]
    simp only [ParseFloat.mantLoop, h46, hdig, Bool.false_eq_true, if_false, if_true]
    rw [ih _ hl.2 (by simpa using hd)]
    simp [hv, Nat.add_assoc, Nat.add_comm 1]

theorem parseSat_decimal {s : Bytes} (hl : Numeral isDec (splitSign s).2) :
    ParseFloat.parseSat s
      = some (ParseFloat.roundDecimal (splitSign s).1 (value 10 (splitSign s).2) 0) := by
  unfold ParseFloat.parseSat ParseFloat.parseBody
  rw [show ParseFloat.splitSign = splitSign from rfl, mantLoop_digits _ _ hl.2 rfl]
  simp [value, hl.1]

/-- The inferrer that the two regenerated tables assign to each scan type; `lz`: the `-O` table, where
numerals with leading zeros are ints. -/
def inferrerOf (lz : Bool) : ScanType → Bytes → Outcome
  | .string => inferString
  | .decimalInt => inferDecimalInt
  | .lzDecimalInt => if lz then inferLeadingZeroDecimalIntAsInt else inferString
  | .octalInt => inferOctalInt
  | .lzOctalInt => if lz then inferFromLeadingZeroOctalIntAsInt else inferString
  | .hexInt => inferHexInt
  | .binaryInt => inferBinaryInt
  | .maybeFloat => inferMaybeFloat

/- The regenerated inferrer tables enter here and only here: `rfl` looks each scan type's index
up in the enum, the name at that index in the table, and the inferrer of that name.  Both tables
in one declaration: the comparisons of names they share are then evaluated once. -/
theorem inferrerTables_eq (s : Bytes) :
    inferNormally s = inferrerOf false (scanClass s) s ∧
    inferWithOctalAsInt s = inferrerOf true (scanClass s) s := by
  unfold inferNormally inferWithOctalAsInt inferWithTable
  rw [findScanType_eq]
  cases scanClass s <;> exact ⟨rfl, rfl⟩

/-- What `inferBaseInt_eq` says of a prefixed numeral, in the words of `findingClass` / `classify`. -/
theorem prefixed_eq (neg : Bool) (n : Nat) :
    Outcome.ok (if n < 9223372036854775808 then .int (signed neg n) else .string)
      = .ok (if (if n ≥ 9223372036854775808 then some Finding.prefixedIntOverflow else none) = none
             then (if fitsI64 (signed neg n) = true then .int (signed neg n)
                   else .float (ParseFloat.roundDecimal neg n 0))
             else .string) := by
  by_cases h : n < 9223372036854775808
  · simp [h, fits_of_small _ h]
  · simp [h, Nat.le_of_not_lt h]

/-- One case per scan class: `scanClass_shape` gives the numeral, the `*_eq` lemma of the class's
inferrer its value, and `prefixed_eq` says that value in the words of `findingClass` / `classify`. -/
theorem inferrerOf_eq (f : Flag) (hnS : (f == .stringOnly) = false) (hnA : (f == .intAsFloat) = false)
    (s : Bytes) :
    inferrerOf (f == .octal) (scanClass s) s
      = .ok (if findingClass f s = none then classify f s else .string) := by
  have hd := scanClass_shape s
  unfold findingClass classify
  simp only [hnS, hnA, Bool.false_eq_true, if_false]
  by_cases hs : scanClass s = .string
  · simp [hs, inferrerOf, inferString, setFromString, strOrVoid]
  have hstr : setFromString s = .string := by simp [setFromString, nonempty_of_class s hs]
  cases hc : scanClass s <;> simp only [hc, Shape, inferrerOf] at hd ⊢
  case string => exact absurd hc hs
  case decimalInt =>
    simp only [inferDecimalInt, parseInt_numeral good_dec hd, toI64, inferMaybeFloat, ParseFloat.parse,
      parseSat_decimal hd, hstr]
    by_cases hfit : fitsI64 (signed (splitSign s).1 (value 10 (splitSign s).2)) = true
    · simp [hfit]
    · by_cases hinf : F64.isInf (ParseFloat.roundDecimal (splitSign s).1 (value 10 (splitSign s).2) 0) = true <;>
        simp [hfit, hinf]
  case lzDecimalInt =>
    cases hlz : f == Flag.octal
    · simp [inferString, hstr]
    · simp only [if_true, inferLeadingZeroDecimalIntAsInt, parseInt_numeral good_dec hd, hstr, toI64]
      by_cases hfit : fitsI64 (signed (splitSign s).1 (value 10 (splitSign s).2)) = true <;> simp [hfit]
  case octalInt =>
    rw [inferOctalInt, inferBaseInt_eq good_oct hd, hstr, prefixed_eq]
  case lzOctalInt =>
    cases hlz : f == Flag.octal
    · simp [inferString, hstr]
    · simp only [if_true, inferFromLeadingZeroOctalIntAsInt, parseInt_numeral good_oct hd, hstr, toI64]
      by_cases hfit : fitsI64 (signed (splitSign s).1 (value 8 (splitSign s).2)) = true <;> simp [hfit]
  case hexInt =>
    rw [inferHexInt_eq hd]
    cases (prefixedDigits s).length == 16 && decide (value 16 (prefixedDigits s) ≥ 9223372036854775808)
    · simp only [Bool.false_eq_true, if_false, inferBaseInt_eq good_hex hd, hstr, prefixed_eq]
    · rfl
  case binaryInt =>
    rw [inferBinaryInt, inferBaseInt_eq good_bin hd, hstr, prefixed_eq]
  case maybeFloat =>
    simp only [inferMaybeFloat, ParseFloat.parse, hstr]
    cases ParseFloat.parseSat s with
    | none => rfl
    | some b => by_cases hinf : F64.isInf b = true <;> simp [hinf]

/-- The grammar consults `-A` in one place, where it makes an int. -/
theorem classify_A (s : Bytes) :
    classify .intAsFloat s = (match classify .normal s with
                              | .int v => .float (F64.ofInt v)
                              | o => o) := by
  unfold classify
  cases scanClass s <;> grind [strOrVoid]

/-- What the inferrers make of every field text under every flag: the grammar's reading,
except on the three finding classes, where the text stays a string. -/
theorem infer_eq (f : Flag) (s : Bytes) :
    Infer.infer f s = .ok (if findingClass f s = none then classify f s else .string) := by
  have hN := (inferrerTables_eq s).1.trans (inferrerOf_eq .normal rfl rfl s)
  cases f with
  | normal => exact hN
  | octal => exact (inferrerTables_eq s).2.trans (inferrerOf_eq .octal rfl rfl s)
  | intAsFloat =>
    simp only [Infer.infer, inferWithIntAsFloat, hN, classify_A,
      show findingClass .intAsFloat s = findingClass .normal s from rfl]
    by_cases h : findingClass .normal s = none
    · simp only [h, if_true]
      cases classify .normal s <;> rfl
    · simp only [h, if_false]
  | stringOnly => rfl

end Lemmas.C06
end Miller
