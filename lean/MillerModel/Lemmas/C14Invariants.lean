/-
The four whole-interpreter invariants of C14, each an instance of `interp_steps`: the frame stack is
balanced, declared types hold, output is append-only, and the context (NR, FNR, FILENAME, mode,
current-record flag) is read-only.  What each needs beyond the walk is that the stack primitives keep
it; then come the facts about calls and about the driver (`runRecord`, `recLoop`) that rest on them.
-/
import MillerModel.Lemmas.C14Interp
namespace Miller
namespace DSL

/-- `m` leaves the number of frames as it found it, whatever its outcome. -/
def Pres {α} (m : M α) : Prop := ∀ s, (runM m s).2.stack.length = s.stack.length

theorem pres_liftR {α} (x : Res α) : Pres (liftR x : M α) := by
  intro s; simp

theorem frame_update_length (f : Frame) (x : String) (v : DV) : (Frame.update f x v).length = f.length := by
  induction f with
  | nil => rfl
  | cons b rest ih => unfold Frame.update; split <;> simp [ih]

theorem Stack.Put.length_eq {st st' : Stack} (h : Stack.Put st st') : st'.length = st.length := by
  induction h with
  | refl => rfl
  | here _ => rfl
  | there _ ih => exact congrArg (· + 1) ih

theorem stepRel_frames : StepRel fun s s' => s'.stack.length = s.stack.length where
  refl _ := rfl
  trans h h' := h'.trans h
  data _ _ _ _ := rfl
  out _ _ := rfl
  stack _ _ h := h.length_eq
  scope s s' f _ h := by
    simp only [List.length_drop, List.length_cons] at h ⊢
    omega
  call _ _ _ _ _ := rfl

/-- A named call hands the caller's stack back EXACTLY as it was (not merely as long): the callee's
frames are a set of their own. -/
theorem inCall_named_restores {α} (frame : Frame) (m : M α) (s : St) :
    (runM (inCall false frame m) s).2.stack = s.stack := by
  simp [inCall, runM_withStack]

theorem callFn_named_restores (p : Prog) (fuel : Nat) (name : String) (args : List DV) (s : St)
    (hname : name.startsWith "#" = false) (hfs : ∀ d ∈ p.funcs, d.isLit = false) :
    (runM (callFn p fuel name args) s).2.stack = s.stack := by
  cases fuel with
  | zero => rfl
  | succ fuel =>
    unfold callFn
    simp only [hname, Bool.false_eq_true, if_false]
    cases hd : findFunc p.funcs name with
    | none => rfl
    | some d =>
      simp only [hfs d (List.mem_of_find?_eq_some hd)]
      -- a guard that fails leaves the state alone; past the guards the state is the one `inCall false` left,
      -- and the return-type gate after it does not move it
      repeat' first
        | intro _
        | with_reducible apply steps_ite (R := fun s s' => s'.stack = s.stack)
        | simp only [runM_bind, runM_failM]
        | split
      all_goals exact (congrArg (·.2.stack) ‹runM _ s = _›).symm.trans (inCall_named_restores _ _ s)

/-- Every slot of every frame holds a value its declared type admits, or absent. -/
def wtB (st : Stack) : Bool := List.all st Frame.wt

theorem wtB_cons (f : Frame) (st : Stack) : wtB (f :: st) = (Frame.wt f && wtB st) := rfl

/-- The slot that takes the value is the one `find` returns, so its type is the one that admitted it. -/
theorem Frame.Put.wt {f f' : Frame} (h : Frame.Put f f') (hf : f.wt = true) : f'.wt = true := by
  cases h with
  | append hb => simp_all [Frame.wt]
  | @update x v b hb hv =>
    induction f with
    | nil => rfl
    | cons c rest ih =>
      simp only [Frame.wt, List.all_cons, Bool.and_eq_true, Frame.find, List.find?_cons] at hf hb
      unfold Frame.update
      cases hc : c.name == x <;> simp only [hc, Frame.wt, List.all_cons, Bool.and_eq_true, ↓reduceIte, Bool.false_eq_true] at hb ⊢
      · exact ⟨hf.1, ih hf.2 hb⟩
      · cases hb
        exact ⟨by simpa [Binding.wt] using hv, hf.2⟩

theorem Stack.Put.wt {st st' : Stack} (h : Stack.Put st st') (hw : wtB st = true) : wtB st' = true := by
  induction h with
  | refl => exact hw
  | here hf => simp_all [wtB_cons, hf.wt]
  | there _ ih => simp_all [wtB_cons]

theorem drop_wt (st : Stack) (n : Nat) (hw : wtB st = true) : wtB (st.drop n) = true := by
  simp only [wtB, List.all_eq_true] at *
  exact fun f hf => hw f (List.mem_of_mem_drop hf)

theorem stepRel_typed : StepRel fun s s' => wtB s.stack = true → wtB s'.stack = true where
  refl _ := id
  trans h h' := h' ∘ h
  data _ _ _ _ := id
  out _ _ := id
  stack _ _ h := h.wt
  scope s s' f hf h hw := drop_wt _ 1 (h (by simp [wtB_cons, hf, hw]))
  call _ _ _ _ _ := id

theorem stepRel_output : StepRel fun s s' => s.out <+: s'.out where
  refl _ := List.prefix_refl _
  trans := List.IsPrefix.trans
  data _ _ _ _ := List.prefix_refl _
  out _ _ := List.prefix_append _ _
  stack _ _ _ := List.prefix_refl _
  scope _ _ _ _ := id
  call _ _ _ _ := id

/-- The context a program can read but not write. -/
def ctxOf (s : St) : Nat × Nat × Bytes × Bool × Bool := (s.nr, s.fnr, s.filename, s.isFilter, s.hasRec)

theorem stepRel_context : StepRel fun s s' => ctxOf s' = ctxOf s where
  refl _ := rfl
  trans h h' := h'.trans h
  data _ _ _ _ := rfl
  out _ _ := rfl
  stack _ _ _ := rfl
  scope _ _ _ _ := id
  call _ _ _ _ := id

theorem ctx_runBlock (p : Prog) (fuel : Nat) (body : List Stmt) (s : St) :
    ctxOf (runM (runBlock p fuel body) s).2 = ctxOf s := by
  -- `runBlock` resets the stack, runs the block, resets the stack
  refine steps_bind stepRel_context rfl (fun _ => ?_)
  exact fun s => steps_bind stepRel_context ((interp_steps stepRel_context p fuel).execBlock body s) fun _ _ => rfl

/-- Whether `runRecord` writes the record, from the filter condition the main block left: a boolean
decides; absent counts as false under `filter` and true under `put`; anything else is an error under
`filter` and true under `put`. -/
def passes (isFilter : Bool) : DV → Option Bool
  | .s (.bool b) => some b
  | .s .absent => some (!isFilter)
  | _ => if isFilter then none else some true

/-- `runRecord` in one equation: the main block runs on the record with the counters advanced; then,
unless `-q`, the record is appended to the output or not. -/
theorem runM_runRecord (p : Prog) (cfg : Run) (fuel : Nat) (r : Fields) (s : St) :
    runM (runRecord p cfg fuel r) s =
      match runM (runBlock p fuel p.main)
          { s with cur := r, hasRec := true, nr := s.nr + 1, fnr := s.fnr + 1, filt := .s .null } with
      | (.error e, s1) => (.error e, s1)
      | (.ok _, s1) =>
        if cfg.quiet then (.ok (), s1)
        else match passes cfg.isFilter s1.filt with
          | none => (.error .raise, s1)
          | some b => (.ok (), if b != cfg.invert then { s1 with out := s1.out ++ [.record s1.cur] } else s1) := by
  unfold runRecord
  simp only [runM_bind, runM_modify, runM_get, emitRec]
  generalize runM (runBlock p fuel p.main) _ = rb
  obtain ⟨res, s1⟩ := rb
  cases res with
  | error e => rfl
  | ok u =>
    cases cfg.quiet
    · simp only [Bool.not_false, if_true, Bool.false_eq_true, if_false, runM_bind]
      cases hf : s1.filt with
      | s v => cases v <;> cases cfg.isFilter <;> simp [passes] <;> split <;> simp [hf]
      | _ => cases cfg.isFilter <;> simp [passes] <;> split <;> simp [hf]
    · rfl

theorem runRecord_counts (p : Prog) (cfg : Run) (fuel : Nat) (r : Fields) (s : St) :
    (runM (runRecord p cfg fuel r) s).2.nr = s.nr + 1 ∧ (runM (runRecord p cfg fuel r) s).2.fnr = s.fnr + 1 ∧
    (runM (runRecord p cfg fuel r) s).2.filename = s.filename := by
  have hb := ctx_runBlock p fuel p.main
    { s with cur := r, hasRec := true, nr := s.nr + 1, fnr := s.fnr + 1, filt := .s .null }
  rw [runM_runRecord]
  generalize runM (runBlock p fuel p.main) _ = rb at *
  obtain ⟨res, s1⟩ := rb
  simp only [ctxOf, Prod.mk.injEq] at hb
  cases res with
  | error e => exact ⟨hb.1, hb.2.1, hb.2.2.1⟩
  | ok u =>
    simp only []
    repeat' split
    all_goals exact ⟨hb.1, hb.2.1, hb.2.2.1⟩

theorem recLoop_nil (p : Prog) (cfg : Run) (fuel : Nat) : recLoop p cfg fuel [] = pure () := by
  simp [recLoop]

theorem recLoop_cons (p : Prog) (cfg : Run) (fuel : Nat) (r : Fields) (rs : List Fields) :
    recLoop p cfg fuel (r :: rs) = (runRecord p cfg fuel r >>= fun _ => recLoop p cfg fuel rs) := by
  simp [recLoop]

theorem recLoop_counts (p : Prog) (cfg : Run) (fuel : Nat) (recs : List Fields) :
    ∀ s : St, (runM (recLoop p cfg fuel recs) s).1 = .ok () →
      (runM (recLoop p cfg fuel recs) s).2.nr = s.nr + recs.length := by
  induction recs with
  | nil => simp [recLoop_nil]
  | cons r rs ih =>
    intro s h
    rw [recLoop_cons, runM_bind] at h ⊢
    have h1 := (runRecord_counts p cfg fuel r s).1
    generalize runM (runRecord p cfg fuel r) s = rr at *
    obtain ⟨_ | _, s1⟩ := rr
    · cases h
    · rw [ih s1 h, show s1.nr = s.nr + 1 from h1, List.length_cons]
      omega

end DSL
end Miller
