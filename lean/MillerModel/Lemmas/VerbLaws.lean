/-
Laws of the vocabulary all verb models share (`Model/Verbs/Common.lean`): looking up and putting
into an ordered map `Verbs.OMap`, and what a `Verbs.Machine` outputs on a whole stream when its
step has one of three simple shapes; and the run of `head -n`, which C04 and C11 both need.
-/
import MillerModel.Spec.Select
namespace Miller
namespace Lemmas.VerbLaws
open Verbs Spec.Select

theorem get?_put {α} (m : OMap α) (k k' : Bytes) (v : α) :
    (m.put k v).get? k' = if k' = k then some v else m.get? k' := by
  unfold OMap.put OMap.get?
  split
  · next h =>
    -- replacing keeps every entry's key, so the lookup stops at the same entry
    have hkey : ((·.1 == k') ∘ fun p : Bytes × α => if p.1 == k then (k, v) else p) = (·.1 == k') := by
      funext p
      by_cases hp : p.1 = k <;> simp [hp]
    rw [List.find?_map, hkey]
    cases hf : m.find? (·.1 == k') with
    | none =>
      obtain ⟨p, hp, hpk⟩ := List.any_eq_true.mp h
      rw [if_neg fun e : k' = k => List.find?_eq_none.mp hf p hp (e ▸ hpk)]
      rfl
    | some p =>
      have hp := List.find?_some hf
      by_cases hk : k' = k <;> simp [eq_of_beq hp, hk]
  · next h =>
    rw [List.find?_append]
    by_cases hk : k' = k
    · rw [List.find?_eq_none.mpr fun p hp hpk => h (List.any_eq_true.mpr ⟨p, hp, hk ▸ hpk⟩)]
      simp [hk]
    · simp [hk, Ne.symm hk]

/-- Looking a key up in a map given as a table over its key list. -/
theorem get?_map {β} (D : List Bytes) (h : Bytes → β) (k : Bytes) :
    OMap.get? (D.map fun k => (k, h k)) k = if k ∈ D then some (h k) else none := by
  induction D with
  | nil => rfl
  | cons d D ih =>
    unfold OMap.get? at ih ⊢
    rw [List.map_cons, List.find?_cons]
    by_cases hd : d = k
    · simp [hd]
    · rw [beq_false_of_ne hd, ih]
      simp [Ne.symm hd]

/-- `put` on such a table: the key list gains `k` if it is new, the entry of `k` becomes `v`. -/
theorem put_map {β} (D : List Bytes) (h : Bytes → β) (k : Bytes) (v : β) :
    OMap.put (D.map fun k' => (k', h k')) k v
      = (addKey D k).map fun k' => (k', if k' = k then v else h k') := by
  have hany : (D.map fun k' => (k', h k')).any (·.1 == k) = D.contains k := by
    rw [List.any_map, List.contains_eq_any_beq]
    exact congrArg D.any (funext fun x => Bool.beq_comm)
  unfold OMap.put addKey
  rw [hany]
  split
  · rw [List.map_map]
    apply List.map_congr_left
    intro k' _
    by_cases hk : k' = k <;> simp [hk]
  · rename_i hk
    rw [List.map_append]
    congr 1
    · apply List.map_congr_left
      intro k' hk'
      have : k' ≠ k := fun e => hk (by simpa [e] using hk')
      simp [this]
    · simp

/-- A machine whose output for a record does not depend on its state: the outputs record by record, then
what `finish` makes of the state folded over the stream. -/
theorem run_stateless {σ} (m : Machine σ) (f : σ → Rec → σ) (g : Rec → List Rec)
    (hstep : ∀ s r, m.step s r = (f s r, g r)) (s : σ) (rs : List Rec) :
    m.runFrom s rs = rs.flatMap g ++ m.finish (rs.foldl f s) := by
  induction rs generalizing s with
  | nil => simp [Machine.runFrom]
  | cons r rs ih => simp [Machine.runFrom, hstep, ih]

theorem run_silent {σ} (m : Machine σ) (f : σ → Rec → σ) (hstep : ∀ s r, m.step s r = (f s r, []))
    (s : σ) (rs : List Rec) : m.runFrom s rs = m.finish (rs.foldl f s) := by
  rw [run_stateless m f (fun _ => []) hstep, List.flatMap_eq_nil_iff.mpr fun _ _ => rfl, List.nil_append]

/-- A machine whose state is a function `G` of the records consumed so far, and which passes a
record on or not, is a history filter. -/
theorem run_filterHist {σ} (M : Machine σ) (G : List Rec → σ) (keep : List Rec → Rec → Bool)
    (hstep : ∀ pre r, M.step (G pre) r = (G (pre ++ [r]), if keep pre r then [r] else []))
    (hfin : ∀ s, M.finish s = []) (pre rest : List Rec) :
    M.runFrom (G pre) rest = filterHist keep pre rest := by
  induction rest generalizing pre with
  | nil => simp [Machine.runFrom, hfin, filterHist]
  | cons r rest ih => simp [Machine.runFrom, hstep, filterHist, ih]

theorem headUnkeyed_runFrom (n c : Nat) (xs : List Rec) :
    (headUnkeyed n).runFrom c xs = xs.take (n - c) := by
  induction xs generalizing c with
  | nil => simp [Machine.runFrom, headUnkeyed]
  | cons r rest ih =>
    show (if c + 1 ≤ n then [r] else []) ++ (headUnkeyed n).runFrom (c + 1) rest = _
    rw [ih]
    by_cases h : c + 1 ≤ n
    · rw [if_pos h, show n - c = (n - (c + 1)) + 1 by omega]
      rfl
    · rw [if_neg h, show n - c = 0 by omega, show n - (c + 1) = 0 by omega]
      rfl

end Lemmas.VerbLaws
end Miller
