/-
Lemmas for C16: the day-counting calendar and its inverse; the digit texts of the time functions
and their scanners.
-/
import MillerModel.Model.Time
namespace Miller
namespace Lemmas.C16
open Time

theorem yearLen_ge (y : Nat) : 365 ≤ yearLen y ∧ yearLen y ≤ 366 := by unfold yearLen; split <;> omega

theorem daysBeforeYear_succ (y : Nat) (h : 1 ≤ y) : daysBeforeYear (y + 1) = daysBeforeYear y + yearLen y := by
  cases y with
  | zero => omega
  | succ k => rfl

theorem daysBeforeMonth_succ (y m : Nat) (h : 1 ≤ m) : daysBeforeMonth y (m + 1) = daysBeforeMonth y m + monthLen y m := by
  cases m with
  | zero => omega
  | succ k => rfl

/-- The leap rule as inclusion and exclusion: a day more every 4th year, a day less every 100th, a day
more every 400th. -/
theorem yearLen_eq (y : Nat) :
    yearLen y + (if 100 ∣ y then 1 else 0) = 365 + (if 4 ∣ y then 1 else 0) + (if 400 ∣ y then 1 else 0) := by
  simp only [yearLen, isLeap, Nat.dvd_iff_mod_eq_zero]
  grind

/-- Counting year by year agrees with the closed form an implementation uses (`y / 100` brought to the
left, to have no subtraction): by `yearLen_eq` each quotient grows exactly when a year adds or drops its day. -/
theorem daysBeforeYear_closed (y : Nat) : daysBeforeYear (y + 1) + y / 100 = 365 * y + y / 4 + y / 400 := by
  induction y with
  | zero => rfl
  | succ y ih =>
    have := yearLen_eq (y + 1)
    rw [daysBeforeYear_succ (y + 1) (by omega)]
    simp only [Nat.succ_div]
    omega

theorem daysBeforeMonth_13 (y : Nat) : daysBeforeMonth y 13 = yearLen y := by
  unfold yearLen
  simp only [daysBeforeMonth, monthLen]
  cases isLeap y <;> rfl

/-- `yearFrom` and `monthFrom y` are the same search: walk forward from index `i`, taking the length
`len i` of each period off `n`, until the rest fits.  `before` counts the days before a period.  The
fuel suffices when the day looked for lies before period `i + fuel`. -/
theorem walk_spec (len before : Nat → Nat) (w : Nat → Nat → Nat → Nat × Nat)
    (hw : ∀ fuel i n, w (fuel + 1) i n = if n < len i then (i, n) else w fuel (i + 1) (n - len i))
    (hb : ∀ i, 1 ≤ i → before (i + 1) = before i + len i)
    (fuel i n : Nat) (hi : 1 ≤ i) (hf : before i + n < before (i + fuel)) :
    before (w fuel i n).1 + (w fuel i n).2 = before i + n ∧ (w fuel i n).2 < len (w fuel i n).1 ∧
    i ≤ (w fuel i n).1 ∧ (w fuel i n).1 < i + fuel := by
  induction fuel generalizing i n with
  | zero => exact absurd hf (Nat.not_lt.mpr (Nat.le_add_right (before i) n))
  | succ fuel ih =>
    rw [hw]
    split
    · next h => exact ⟨rfl, h, Nat.le_refl i, by omega⟩
    · have hf' : before (i + 1) + (n - len i) < before (i + 1 + fuel) := by
        rw [hb i hi, show i + 1 + fuel = i + (fuel + 1) by omega]
        omega
      have := ih (i + 1) (n - len i) (by omega) hf'
      rw [hb i hi] at this
      omega

theorem civil_roundtrip (n : Nat) :
    let c := civilFromDays n
    daysFromCivil c.1 c.2.1 c.2.2 = n ∧ 1 ≤ c.1 ∧ 1 ≤ c.2.1 ∧ c.2.1 ≤ 12 ∧ 1 ≤ c.2.2 ∧ c.2.2 ≤ monthLen c.1 c.2.1 := by
  have h1 : daysBeforeYear 1 = 0 := rfl
  have h2 : ∀ y, daysBeforeMonth y 1 = 0 := fun _ => rfl
  -- fuel `n / 365 + 1` is enough: by the closed form that many years have at least `365 * (n / 365 + 1) > n` days
  have hc := daysBeforeYear_closed (n / 365 + 1)
  have hy := walk_spec yearLen daysBeforeYear yearFrom (fun _ _ _ => rfl) daysBeforeYear_succ
    (n / 365 + 1) 1 n (Nat.le_refl 1) (by rw [Nat.add_comm 1]; omega)
  have hm := walk_spec (monthLen (yearFrom (n / 365 + 1) 1 n).1) (daysBeforeMonth _) (monthFrom _)
    (fun _ _ _ => rfl) (daysBeforeMonth_succ _) 12 1 (yearFrom (n / 365 + 1) 1 n).2 (Nat.le_refl 1)
    (by rw [h2, daysBeforeMonth_13]; omega)
  rw [h2] at hm
  simp only [civilFromDays, daysFromCivil]
  omega

theorem digit_range (n : Nat) : 48 ≤ digit n ∧ digit n ≤ 57 := by
  unfold digit
  omega

theorem digit_sub (n : Nat) : digit n - 48 = n % 10 := by
  unfold digit
  omega

theorem unpad2_pad2 (n : Nat) (h : n < 100) : unpad2 (pad2 n) = some n := by
  simp only [pad2, unpad2, digit_range, and_self, if_true, digit_sub, Option.some.injEq]
  omega

theorem unpad4_pad4 (n : Nat) (h : n < 10000) : unpad4 (pad4 n) = some n := by
  simp only [pad4, unpad4, digit_range, and_self, if_true, digit_sub, Option.some.injEq]
  omega

theorem scanNat_digit (n acc : Nat) (seen : Bool) (tail : Bytes) :
    scanNat (digit n :: tail) acc seen = scanNat tail (acc * 10 + n % 10) true := by
  simp only [scanNat, digit_range, and_self, if_true, digit_sub]

/-- `natText` adds digits on the right, so every recursive call is again scanned from 0. -/
theorem scanNat_natText {n : Nat} {seen : Bool} {tail : Bytes} :
    scanNat (natText n ++ tail) 0 seen = scanNat tail n true := by
  induction n using Nat.strongRecOn generalizing seen tail with
  | _ n ih =>
    unfold natText
    split
    · rw [List.singleton_append, scanNat_digit]
      congr 1
      omega
    · rw [List.append_assoc, ih (n / 10) (by omega), List.singleton_append, scanNat_digit]
      congr 1
      omega

theorem scanNat_pad2 {n : Nat} {seen : Bool} {tail : Bytes} (hn : n < 100) :
    scanNat (pad2 n ++ tail) 0 seen = scanNat tail n true := by
  simp only [pad2, List.cons_append, List.nil_append, scanNat_digit]
  congr 1
  omega

/-- `gmt2sec` on a text of the shape `YYYY-MM-DDTHH:MM:SSZ` (45, 84, 58, 90 are `-`, `T`, `:`, `Z`). -/
theorem gmt2sec_text (a b c d e f g h i j k l m n : Nat) :
    gmt2sec [a, b, c, d, 45, e, f, 45, g, h, 84, i, j, 58, k, l, 58, m, n, 90] = (do
      let y ← unpad4 [a, b, c, d]
      let mo ← unpad2 [e, f]
      let dd ← unpad2 [g, h]
      let hh ← unpad2 [i, j]
      let mm ← unpad2 [k, l]
      let ss ← unpad2 [m, n]
      if y < 1 || mo < 1 || mo > 12 || dd < 1 || dd > monthLen y mo || hh > 23 || mm > 59 || ss > 59 then none
      else some (((daysFromCivil y mo dd : Nat) : Int) * 86400 + hh * 3600 + mm * 60 + ss + minSec)) := rfl

theorem gmt2sec_of_fields (y m d hh mm ss : Nat) (hc : 1 ≤ y ∧ 1 ≤ m ∧ m ≤ 12 ∧ 1 ≤ d ∧ d ≤ monthLen y m)
    (hy : y < 10000) (hh' : hh ≤ 23) (hmm : mm ≤ 59) (hss : ss ≤ 59) :
    gmt2sec (pad4 y ++ [45] ++ pad2 m ++ [45] ++ pad2 d ++ [84] ++ pad2 hh ++ [58] ++ pad2 mm ++ [58] ++ pad2 ss ++ [90])
      = some (((daysFromCivil y m d : Nat) : Int) * 86400 + hh * 3600 + mm * 60 + ss + minSec) := by
  have hml : monthLen y m ≤ 31 := by unfold monthLen; split <;> (try split) <;> omega
  have e1 := unpad4_pad4 y hy
  have e2 := unpad2_pad2 m (by omega)
  have e3 := unpad2_pad2 d (by omega)
  have e4 := unpad2_pad2 hh (by omega)
  have e5 := unpad2_pad2 mm (by omega)
  have e6 := unpad2_pad2 ss (by omega)
  have hok : (y < 1 || m < 1 || m > 12 || d < 1 || d > monthLen y m || hh > 23 || mm > 59 || ss > 59) = false := by
    simp only [Bool.or_eq_false_iff, decide_eq_false_iff_not]
    omega
  simp only [pad4, pad2, List.cons_append, List.nil_append] at e1 e2 e3 e4 e5 e6 ⊢
  rw [gmt2sec_text, e1, e2, e3, e4, e5, e6]
  simp only [Option.bind_eq_bind, Option.bind_some, hok, Bool.false_eq_true, if_false]

/-- The multiplier that `dhmsGroups` looks up for a unit letter (d, h, m, s). -/
def unitMul (u : Nat) : Option Nat :=
  if u == 100 then some 86400 else if u == 104 then some 3600 else if u == 109 then some 60 else if u == 115 then some 1 else none

theorem unit_not_digit (unit k : Nat) (hu : unitMul unit = some k) : ¬ (48 ≤ unit ∧ unit ≤ 57) := by
  grind [unitMul]

/-- `dhmsGroups` reads `s` from the sum `acc` on to the sum `r`, whatever fuel above the length of `s` it is
given: a group takes one unit of fuel and at least one byte. -/
def Groups (s : Bytes) (acc r : Nat) : Prop := ∀ fuel, s.length < fuel → dhmsGroups fuel s acc = some r

theorem groups_nil {acc r : Nat} (h : acc = r) : Groups [] acc r
  | 0, hf => absurd hf (Nat.not_lt_zero _)
  | _ + 1, _ => congrArg some h

theorem groups_cons {unit k acc n r : Nat} {txt tail : Bytes}
    (hs : scanNat (txt ++ unit :: tail) 0 false = scanNat (unit :: tail) n true)
    (hu : unitMul unit = some k) (ht : Groups tail (acc + n * k) r) : Groups (txt ++ unit :: tail) acc r
  | 0, hf => absurd hf (Nat.not_lt_zero _)
  | fuel + 1, hf => by
    have hnd := unit_not_digit unit k hu
    unfold unitMul at hu
    rw [dhmsGroups]
    simp only [List.isEmpty_iff, List.append_eq_nil_iff, reduceCtorEq, and_false, if_false, hs, scanNat, hnd, if_true, hu]
    rw [List.length_append, List.length_cons] at hf
    exact ht fuel (by omega)

/-- Each `<n><unit>` group of `sec2dhms`'s text is consumed by `groups_cons`, the leading number as a
`natText` and the others as a `pad2`, and what has been added up at the end is
`u = d*86400 + h*3600 + m*60 + s`. -/
theorem groups_of_abs (u : Nat) : Groups (sec2dhms (u : Int)) 0 u := by
  have hnn : ¬ ((u : Int) < 0) := by omega
  simp only [sec2dhms, Int.natAbs_natCast, hnn, if_false, List.nil_append, List.append_assoc, List.cons_append,
    bne_iff_ne, ite_not]
  split
  · split
    · split
      · refine groups_cons scanNat_natText rfl (groups_nil ?_)
        omega
      · refine groups_cons scanNat_natText rfl (groups_cons (scanNat_pad2 ?_) rfl (groups_nil ?_))
        all_goals omega
    · refine groups_cons scanNat_natText rfl (groups_cons (scanNat_pad2 ?_) rfl
        (groups_cons (scanNat_pad2 ?_) rfl (groups_nil ?_)))
      all_goals omega
  · refine groups_cons scanNat_natText rfl (groups_cons (scanNat_pad2 ?_) rfl
      (groups_cons (scanNat_pad2 ?_) rfl (groups_cons (scanNat_pad2 ?_) rfl (groups_nil ?_))))
    all_goals omega

theorem dhms2sec_minus {s : Bytes} {n : Nat} (h : Groups s 0 n) : dhms2sec (45 :: s) = some (-(n : Int)) := by
  rw [dhms2sec, h _ (Nat.lt_succ_self _)]
  rfl

/-- What `dhmsGroups` accepts begins with a digit, so `dhms2sec` does not take it for negative. -/
theorem dhms2sec_of_groups {s : Bytes} {n : Nat} (hne : s ≠ []) (h : Groups s 0 n) : dhms2sec s = some (n : Int) := by
  have h := h _ (Nat.lt_succ_self _)
  unfold dhms2sec
  split
  · exact absurd rfl hne
  · simp [dhmsGroups, scanNat] at h
  · rw [h]
    rfl

theorem sec2dhms_neg (t : Int) (h : t < 0) : sec2dhms t = 45 :: sec2dhms (t.natAbs : Int) := by
  have hnn : ¬ (((t.natAbs : Nat) : Int) < 0) := by omega
  simp only [sec2dhms, h, hnn, Int.natAbs_natCast, if_true, if_false, List.nil_append,
    List.cons_append, apply_ite (List.cons 45)]

theorem sec2dhms_ne_nil (t : Int) : sec2dhms t ≠ [] := by
  simp only [sec2dhms, ne_eq, apply_ite (· = []), List.append_eq_nil_iff, reduceCtorEq, and_false, ite_self,
    not_false_eq_true]

end Lemmas.C16
end Miller
