/-
Lemmas for C19: the regenerated step table `Gen.inPlaceSteps` is interpreted once, as `plan`; the
named file changes only at a rename (`quiet`), which gives atomicity for any operation list with one
rename; what the first ten steps of the plan do.
-/
import MillerModel.Model.InPlace
import MillerModel.Lemmas.Lists
namespace Miller

namespace Props.C19

/-- The bytes of a file, without its mode.  (Under the name the C19 statements use; it stands here because
the lemmas below need it.) -/
def content (x : Option (Bytes × Nat)) : Option Bytes := x.map (·.1)

end Props.C19

namespace Lemmas.C19
open InPlace Props.C19

/-! ### the step table -/

/-- What each step of the regenerated order does, step by step: nothing touches the named file
before the rename; the temporary file is created, filled, closed, renamed onto the named file, whose
mode is then restored. -/
def plan (chunks : List Bytes) (mode : Nat) : List (List Op) :=
  [[.noop], [.noop], [.noop], [.noop], [.createTemp], [.noop], [.noop], chunks.map .write,
   [.noop], [.closeTemp], [.rename], [.chmod mode]]

theorem steps_plan (chunks : List Bytes) (mode : Nat) :
    Gen.inPlaceSteps.mapM (fun s => opsOfCall chunks mode s.1) = some (plan chunks mode) := by
  rfl

theorem success_plan (chunks : List Bytes) (mode : Nat) :
    successOps Gen.inPlaceSteps chunks mode = some (plan chunks mode).flatten := by
  rw [successOps, steps_plan]
  rfl

theorem failure_plan (chunks : List Bytes) (mode i : Nat) (p : List Op) :
    failureOps Gen.inPlaceSteps chunks mode i p
      = Gen.inPlaceSteps[i]?.map fun s =>
          ((plan chunks mode).take i).flatten ++ p ++ if s.2.2 then [.removeTemp] else [] := by
  rw [failureOps, Lemmas.Lists.mapM_take _ _ _ i (steps_plan chunks mode)]
  cases Gen.inPlaceSteps[i]? <;> rfl

theorem run_append (a b : List Op) (fs : FS) : run (a ++ b) fs = run b (run a fs) := List.foldl_append

theorem run_writes (chunks : List Bytes) (fs : FS) :
    run (chunks.map .write) fs = { fs with t := fs.t.map fun p => (p.1 ++ chunks.flatten, p.2) } := by
  induction chunks generalizing fs with
  | nil => cases fs with | mk f t => cases t <;> simp [run]
  | cons x xs ih =>
    show run (xs.map .write) (apply fs (.write x)) = _
    rw [ih]
    cases fs with | mk f t => cases t <;> simp [apply]

/-- Only the rename changes what the named file holds (chmod changes its mode). -/
def quiet : Op → Bool
  | .rename => false
  | _ => true

theorem quiet_apply (fs : FS) (o : Op) (h : quiet o = true) : content (apply fs o).f = content fs.f := by
  cases o with
  | rename => cases h
  | chmod m => cases fs with | mk f t => cases f <;> rfl
  | _ => rfl

theorem quiet_keeps_content (ops : List Op) (fs : FS) (h : ∀ o ∈ ops, quiet o = true) :
    content (run ops fs).f = content fs.f := by
  induction ops generalizing fs with
  | nil => rfl
  | cons o ops ih =>
    rw [List.forall_mem_cons] at h
    exact (ih (apply fs o) h.2).trans (quiet_apply fs o h.1)

/-- The writes that had happened when a step failed, in the shape in which `Props.C19.error_paths_clean` has them. -/
theorem quiet_writes (c : Prop) [Decidable c] (ws : List Bytes) :
    ∀ o ∈ (if c then ws.map Op.write else []), quiet o = true := by
  split <;> simp [quiet]

theorem removeTemp_after_quiet (ops : List Op) (fs : FS) (h : ∀ o ∈ ops, quiet o = true) :
    (run (ops ++ [.removeTemp]) fs).t = none ∧ content (run (ops ++ [.removeTemp]) fs).f = content fs.f := by
  rw [run_append]
  exact ⟨rfl, (quiet_apply _ .removeTemp rfl).trans (quiet_keeps_content ops fs h)⟩

/-- The named file changes only at the rename.  No hypothesis on the temporary file is needed: if
there is none, the rename does nothing. -/
theorem content_take (a b : List Op) (ha : ∀ o ∈ a, quiet o = true) (hb : ∀ o ∈ b, quiet o = true)
    (fs : FS) (k : Nat) :
    content (run ((a ++ .rename :: b).take k) fs).f = content fs.f ∨
    content (run ((a ++ .rename :: b).take k) fs).f = content (run a fs).t := by
  by_cases hk : k ≤ a.length
  · rw [List.take_append_of_le_length hk]
    exact Or.inl (quiet_keeps_content _ fs fun o ho => ha o (List.mem_of_mem_take ho))
  · obtain ⟨j, rfl⟩ : ∃ j, k = a.length + (j + 1) := ⟨k - a.length - 1, by omega⟩
    rw [List.take_length_add_append, List.take_succ_cons, run_append,
      show run (.rename :: b.take j) (run a fs) = run (b.take j) (apply (run a fs) .rename) from rfl,
      quiet_keeps_content _ _ fun o ho => hb o (List.mem_of_mem_take ho)]
    unfold apply
    cases (run a fs).t with
    | none => exact Or.inl (quiet_keeps_content a fs ha)
    | some p => exact Or.inr rfl

/-! Steps 0 to 9 of the plan come before the rename (step 10). -/

theorem plan_flatten (chunks : List Bytes) (mode : Nat) :
    (plan chunks mode).flatten = ((plan chunks mode).take 10).flatten ++ [.rename, .chmod mode] := by
  simp [plan]

theorem quiet_before_rename (chunks : List Bytes) (mode i : Nat) (hi : i ≤ 10) :
    ∀ o ∈ ((plan chunks mode).take i).flatten, quiet o = true := by
  have h : ∀ l ∈ (plan chunks mode).take 10, ∀ o ∈ l, quiet o = true := by simp [plan, quiet]
  intro o ho
  obtain ⟨l, hl, hol⟩ := List.mem_flatten.mp ho
  exact h l (List.take_subset_take_left _ hi hl) o hol

theorem run_before_rename (chunks : List Bytes) (mode : Nat) (old : Bytes) (om : Nat) :
    run ((plan chunks mode).take 10).flatten { f := some (old, om), t := none }
      = { f := some (old, om), t := some (chunks.flatten, 0o600) } := by
  show run ([.noop, .noop, .noop, .noop, .createTemp, .noop, .noop] ++ (chunks.map .write ++ [.noop, .closeTemp])) _ = _
  rw [run_append, run_append, run_writes]
  rfl

end Lemmas.C19
end Miller
