/-
The TSV escape codec, and the CSV writer against the reader's scanners in LF mode: a written field,
a written line and a written stream scan back to the field, the fields and the rows
(`scanField_writeField`, `scanRecord_line`, `read_lines`); a rectangular stream of records with
distinct keys is written as header and data lines and rebuilt from the rows (`write_rect`, `toRecords_rect`).
-/
import MillerModel.Model.Formats.Csv
import MillerModel.Model.Formats.Tsv
import MillerModel.Lemmas.Split
namespace Miller
namespace Lemmas.C01

/-- `decode` matches two bytes at a time, so `decode (c :: rest)` unfolds only once `rest` is split. -/
theorem tsv_decode_cons_ne (c : Nat) (rest : Bytes) (h : c ≠ 92) :
    Tsv.decode (c :: rest) = c :: Tsv.decode rest := by
  cases rest <;> simp [Tsv.decode, h]

theorem tsv_decode_encode (s : Bytes) : Tsv.decode (Tsv.encode s) = s := by
  -- an escape pair decodes to its byte; any other byte is not `\` and passes through
  fun_induction Tsv.encode s <;> simp_all [Tsv.decode, tsv_decode_cons_ne]

theorem tsv_encode_no_sep (s : Bytes) : 9 ∉ Tsv.encode s ∧ 10 ∉ Tsv.encode s ∧ 13 ∉ Tsv.encode s := by
  fun_induction Tsv.encode s <;> simp_all [eq_comm]

theorem tsv_encode_eq_nil (s : Bytes) : Tsv.encode s = [] ↔ s = [] := by
  fun_cases Tsv.encode s <;> simp

open Csv

/-- Hypotheses on the separator: an ASCII byte that is not `"`, CR or LF (Go's `validDelim`). -/
structure GoodComma (comma : Nat) : Prop where
  ne34 : comma ≠ 34
  ne10 : comma ≠ 10
  ne13 : comma ≠ 13
  ascii : comma < 128

/-- The CR and LF branches of `quoteBody` differ from the default one only in CRLF mode. -/
theorem quoteBody_cons (c : Nat) (r : Bytes) :
    quoteBody false (c :: r) = (if c = 34 then [34, 34] else [c]) ++ quoteBody false r := by
  grind [quoteBody]

theorem mem_quoteBody (x : Nat) (f : Bytes) : x ∈ quoteBody false f ↔ x ∈ f := by
  induction f with
  | nil => simp [quoteBody]
  | cons c r ih => by_cases h : c = 34 <;> simp [quoteBody_cons, h, ih]

theorem scanQuoted_step (comma c : Nat) (r acc : Bytes) (hc : c ≠ 34) :
    scanQuoted comma (c :: r) acc = scanQuoted comma r (acc ++ [c]) := by
  simp [scanQuoted, hc]

theorem scanQuoted_quoteBody (comma : Nat) (f rest acc : Bytes) :
    scanQuoted comma (quoteBody false f ++ rest) acc = scanQuoted comma rest (acc ++ f) := by
  induction f generalizing acc with
  | nil => simp [quoteBody]
  | cons c cs ih =>
    rw [quoteBody_cons]
    by_cases h : c = 34
    · subst h
      simp [scanQuoted, ih]
    · simp [h, scanQuoted_step, ih]

theorem scanUnquoted_plain (comma : Nat) (f rest acc : Bytes) (hp : ∀ c ∈ f, c ≠ comma ∧ c ≠ 10 ∧ c ≠ 34) :
    scanUnquoted comma (f ++ rest) acc = scanUnquoted comma rest (acc ++ f) :=
  Split.scan_append (scanUnquoted comma) _ (fun c r acc h => by simp [scanUnquoted, h]) f rest acc hp

theorem plain_of_not_needsQuotes (comma : Nat) (f : Bytes) (h : needsQuotes comma f = false) :
    ∀ c ∈ f, c ≠ comma ∧ c ≠ 10 ∧ c ≠ 34 := by
  intro c hc
  unfold needsQuotes at h
  split at h
  · simp_all
  · split at h
    · simp at h
    · have := List.any_eq_false.mp h c hc
      grind

theorem scanField_unquoted (comma : Nat) (s : Bytes) (h : s.head? ≠ some 34) :
    scanField comma s = scanUnquoted comma s [] := by
  unfold scanField
  split
  · simp at h
  · rfl

/-- After a written field the scanner stands at the terminator `d` (the separator or LF) with the
field in its accumulator, whether the writer quoted it or not. -/
theorem scanField_writeField {comma : Nat} (g : GoodComma comma) (q : Bool) (f rest : Bytes) {d : Nat}
    (hd : d = comma ∨ d = 10) :
    scanField comma (writeField comma q false f ++ d :: rest) = scanUnquoted comma (d :: rest) f := by
  unfold writeField
  split
  · -- past the body the scanner stands at the closing quote, and `d` after it ends the field as it
    -- ends an unquoted one
    simp only [List.append_assoc, List.cons_append, List.nil_append, scanField, scanQuoted_quoteBody]
    rcases hd with rfl | rfl <;> simp [scanQuoted, scanUnquoted, g.ne34]
  · next hq =>
    have hp := plain_of_not_needsQuotes comma f (by simp_all)
    rw [scanField_unquoted, scanUnquoted_plain _ _ _ _ hp, List.nil_append]
    -- the text does not begin with a quote
    cases f with
    | nil => rcases hd with rfl | rfl <;> simp [g.ne34]
    | cons c cs => simpa using (hp c (by simp)).2.2

theorem field_roundtrip {comma : Nat} (g : GoodComma comma) (q : Bool) (f rest : Bytes) :
    scanField comma (writeField comma q false f ++ comma :: rest) = .ok ⟨f, false, rest⟩ ∧
    scanField comma (writeField comma q false f ++ 10 :: rest) = .ok ⟨f, true, rest⟩ := by
  rw [scanField_writeField g q f rest (.inl rfl), scanField_writeField g q f rest (.inr rfl)]
  simp [scanUnquoted, Ne.symm g.ne10]

def wf (o : WOpts) (f : Bytes) : Bytes := writeField o.comma o.quoteAll false f

/-- What `Csv.writeLine` writes in LF mode (`writeLine_lf`). -/
def lineText (comma : Nat) (quoteAll : Bool) (fields : List Bytes) : Bytes :=
  Split.join [comma] (fields.map (writeField comma quoteAll false)) ++ [10]

theorem lineText_singleton (comma : Nat) (q : Bool) (f : Bytes) :
    lineText comma q [f] = writeField comma q false f ++ [10] := rfl

theorem lineText_cons_cons (comma : Nat) (q : Bool) (f f2 : Bytes) (fs : List Bytes) :
    lineText comma q (f :: f2 :: fs) = writeField comma q false f ++ comma :: lineText comma q (f2 :: fs) := by
  simp [lineText, Split.join]

theorem scanRecord_line {comma : Nat} (g : GoodComma comma) (q : Bool) (f : Bytes) (fs : List Bytes)
    (rest : Bytes) (acc : List Bytes) (fuel : Nat) (hfuel : fs.length < fuel) :
    scanRecord comma fuel (lineText comma q (f :: fs) ++ rest) acc = .ok (acc ++ f :: fs, rest) := by
  induction fs generalizing f acc fuel with
  | nil =>
    obtain ⟨k, rfl⟩ := Nat.exists_eq_add_of_lt hfuel
    simp [lineText_singleton, scanRecord, (field_roundtrip g q f rest).2]
  | cons f2 fs2 ih =>
    obtain ⟨k, rfl⟩ := Nat.exists_eq_add_of_lt hfuel
    rw [lineText_cons_cons, List.append_assoc, List.cons_append, scanRecord, (field_roundtrip g q f _).1]
    simp [ih f2 (acc ++ [f]) _ (Nat.lt_add_right k (Nat.lt_succ_self _))]

theorem length_lt_lineText (comma : Nat) (q : Bool) (f : Bytes) (fs : List Bytes) :
    fs.length < (lineText comma q (f :: fs)).length := by
  induction fs generalizing f with
  | nil => simp [lineText_singleton]
  | cons f2 fs2 ih =>
    have := ih f2
    simp [lineText_cons_cons]
    omega

/-- Any fuel above the length of the text is enough: every line takes at least its line end. -/
theorem scanAll_lines {comma : Nat} (g : GoodComma comma) (q : Bool)
    (rows : List (List Bytes)) (hne : ∀ r ∈ rows, r ≠ []) (acc : List (List Bytes)) (fuel : Nat)
    (hfuel : ((rows.map (lineText comma q)).flatten).length < fuel) :
    scanAll comma fuel ((rows.map (lineText comma q)).flatten) acc = .ok (acc ++ rows) := by
  induction rows generalizing acc fuel with
  | nil => cases fuel <;> simp [scanAll]
  | cons row rows ih =>
    obtain ⟨hrow, hrows⟩ := List.forall_mem_cons.mp hne
    obtain ⟨f, fs, rfl⟩ := List.exists_cons_of_ne_nil hrow
    have hlen := length_lt_lineText comma q f fs
    have hnil : lineText comma q (f :: fs) ≠ [] := by simp [lineText]
    obtain ⟨fuel, rfl⟩ := Nat.exists_eq_add_one.mpr (Nat.zero_lt_of_lt hfuel)
    simp only [List.map_cons, List.flatten_cons, List.length_append] at hfuel ⊢
    rw [scanAll, scanRecord_line g q f fs _ [] _ (by simp; omega)]
    simp [hnil, ih hrows (acc ++ [f :: fs]) fuel (by omega)]

theorem putDedupe_fresh (d : Bool) (acc : Rec) (k v : Bytes) (h : k ∉ acc.keys) :
    Rec.putDedupe d acc k v = acc ++ [(k, v)] := by
  have : acc.any (fun p => p.1 == k) = false := by grind [Rec.keys]
  simp [Rec.putDedupe, Rec.put, this]

theorem ofPairs_fold (d : Bool) (ps acc : Rec) (h : (acc ++ ps).keys.Nodup) :
    ps.foldl (fun r p => Rec.putDedupe d r p.1 p.2) acc = acc ++ ps := by
  induction ps generalizing acc with
  | nil => simp
  | cons p rest ih =>
    have hk : p.1 ∉ acc.keys := by
      simp only [Rec.keys, List.map_append, List.map_cons] at h
      exact fun hm => (List.nodup_append.mp h).2.2 _ hm _ (by simp) rfl
    rw [List.foldl_cons, putDedupe_fresh d acc p.1 p.2 hk, ih _ (by simpa using h)]
    simp

/-- A record with pairwise distinct field names is rebuilt unchanged (no `_2` renaming). -/
theorem ofPairs_id (d : Bool) (r : Rec) (h : r.keys.Nodup) : Rec.ofPairs d r = r := by
  simpa [Rec.ofPairs] using ofPairs_fold d r [] (by simpa using h)

theorem zip_keys_vals (r : Rec) : r.keys.zip r.vals = r := by
  simp [Rec.keys, Rec.vals, List.zip_map']

theorem toRecords_rect (o : ROpts) (keys : List Bytes) (rs acc : List Rec)
    (hk : ∀ r ∈ rs, r.keys = keys) (hnd : keys.Nodup) :
    toRecords o (some keys) (rs.map Rec.vals) acc = .ok (acc ++ rs) := by
  induction rs generalizing acc with
  | nil => simp [toRecords]
  | cons r rest ih =>
    obtain ⟨rfl, hk⟩ := List.forall_mem_cons.mp hk
    rw [List.map_cons, toRecords, if_pos, zip_keys_vals, ofPairs_id _ r hnd, ih (acc ++ [r]) hk]
    · simp
    · -- as many values as keys
      simp [Rec.keys, Rec.vals]

theorem dataFields_rect (r : Rec) : dataFields r.keys r = .ok r.vals := by
  -- no key differs from itself, and there is nothing to pad
  simp [dataFields, List.zip_eq_zipWith, Rec.keys, Rec.vals]

theorem writeLine_lf (o : WOpts) (hlf : o.crlf = false) (fs : List Bytes) :
    writeLine o fs = lineText o.comma o.quoteAll fs := by
  simp [writeLine, lineText, eol, hlf]

theorem write_rect (o : WOpts) (hlf : o.crlf = false) (hh : o.headerless = false)
    (keys : List Bytes) (rs : List Rec) (hne : rs ≠ []) (hk : ∀ r ∈ rs, r.keys = keys) :
    write o rs = .ok (((keys :: rs.map Rec.vals).map (lineText o.comma o.quoteAll)).flatten) := by
  obtain ⟨first, rest, rfl⟩ := List.exists_cons_of_ne_nil hne
  rw [write, hk first (by simp), List.map_cons]
  simp only [hh, Bool.false_eq_true, if_false, writeLine_lf o hlf]
  -- on a rectangular stream every step of the writer's fold succeeds and appends the record's line,
  -- whatever has been written so far
  generalize first :: rest = rs at hk
  generalize lineText o.comma o.quoteAll keys = acc
  induction rs generalizing acc with
  | nil => simp [pure, Except.pure]
  | cons r rest ih =>
    obtain ⟨rfl, h⟩ := List.forall_mem_cons.mp hk
    rw [List.foldlM_cons, dataFields_rect r]
    refine (ih h _).trans ?_
    simp

theorem normalise_crfree (s : Bytes) (h : 13 ∉ s) (b : Bool) : normaliseAux b s = s := by
  -- the two CR cases of `normaliseAux` do not arise; the others copy the head byte
  fun_induction normaliseAux b s <;> simp_all

theorem not_mem_writeField (comma : Nat) (q : Bool) {x : Nat} {f : Bytes} (h34 : x ≠ 34) (h : x ∉ f) :
    x ∉ writeField comma q false f := by
  unfold writeField
  split
  · simp [mem_quoteBody, h34, h]
  · exact h

theorem not_mem_lineText {comma x : Nat} (q : Bool) {fields : List Bytes} (hc : x ≠ comma) (h10 : x ≠ 10)
    (h34 : x ≠ 34) (h : ∀ f ∈ fields, x ∉ f) : x ∉ lineText comma q fields := by
  simp only [lineText, List.mem_append, List.mem_singleton, not_or]
  exact ⟨Split.not_mem_join hc (List.forall_mem_map.mpr fun f hf => not_mem_writeField comma q h34 (h f hf)), h10⟩

theorem stripBOM_id (t : Bytes) (h : t.head? ≠ some 0xEF) : stripBOM t = t := by
  unfold stripBOM
  split
  · simp at h
  · rfl

theorem head?_lineText_ne {comma : Nat} (g : GoodComma comma) (q : Bool) (k : Bytes) (ks : List Bytes)
    (more : Bytes) {b : Nat} (hb : 128 ≤ b) (hk : k.head? ≠ some b) :
    (lineText comma q (k :: ks) ++ more).head? ≠ some b := by
  -- a line begins with a quote, the separator or LF (all ASCII) or with the first byte of its first field
  obtain ⟨d, tl, hd, e⟩ : ∃ d tl, d < 128 ∧ lineText comma q (k :: ks) = writeField comma q false k ++ d :: tl := by
    cases ks with
    | nil => exact ⟨10, [], by decide, lineText_singleton ..⟩
    | cons k2 ks2 => exact ⟨comma, _, g.ascii, lineText_cons_cons ..⟩
  rw [e]
  unfold writeField
  split
  · simp
    omega
  · cases k with
    | nil =>
      simp
      omega
    | cons c cs => simpa using hk

/-- The stages of the reader before the record builder (byte-order mark, CR LF normalisation,
scanning) undo the writer; the rows go to `toRecords` as they stand, so this serves every header mode. -/
theorem read_lines (o : ROpts) (g : GoodComma o.comma) (q : Bool) (rows : List (List Bytes))
    (hne : ∀ r ∈ rows, r ≠ []) (hcr : ∀ r ∈ rows, ∀ f ∈ r, 13 ∉ f)
    (hbom : ∀ k ks rest, rows = (k :: ks) :: rest → k.head? ≠ some 0xEF) :
    read o ((rows.map (lineText o.comma q)).flatten) = toRecords o none rows [] := by
  rw [Csv.read, stripBOM_id, normalise, normalise_crfree, scanAll_lines g q rows hne [] _ (Nat.lt_succ_self _)]
  · rfl
  · -- no CR anywhere in the text
    intro hm
    obtain ⟨l, hl, hx⟩ := List.mem_flatten.mp hm
    obtain ⟨row, hrow, rfl⟩ := List.mem_map.mp hl
    exact not_mem_lineText q (Ne.symm g.ne13) (by decide) (by decide) (hcr row hrow) hx
  · -- the text does not begin like a byte-order mark
    cases rows with
    | nil => simp
    | cons row rest =>
      obtain ⟨k, ks, rfl⟩ := List.exists_cons_of_ne_nil (hne row (by simp))
      simpa using head?_lineText_ne g q k ks _ (by decide) (hbom k ks rest rfl)

end Lemmas.C01
end Miller
