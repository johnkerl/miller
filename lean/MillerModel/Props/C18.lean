/-
C18 — No input, program or argument makes Miller panic or hang.

Proved here, over the REGENERATED disposition tables and the models tied to the code elsewhere:
no cell of any binary or unary operator table panics on ANY pair of values (all 12 kinds, every
payload): a Go panic in these kernels can only come from an unchecked type assertion on an operand
of the wrong kind or from a nil/missing cell, both of which the model represents as `.panic`;
type inference never panics on any byte string; the readers' and verbs' models are total
functions (Lean accepts no non-terminating definition).  Exercised on the real code (T2/T3): every
built-in function x argument-kind tuples up to arity 3 through the real DSL; mutated documents
through every reader; token-mutated DSL programs; with recover, timeouts and crash-trace detection.
-/
import MillerModel.Props.C06
import MillerModel.Props.C08
namespace Miller
namespace Props.C18
open Gen Disp

abbrev U := Gen.bifs_uneg_dispositions

theorem unary_cell_total {t : List K} (ht : t ∈ Gen.unaryTables.map (·.2)) (a : Val) :
    evalUnary t a ≠ .panic := by
  obtain ⟨k, hk, hs⟩ := Props.C08.unary_cell_safe ht a
  exact Lemmas.C08.evalUnary_ne_panic hk hs

theorem binary_cell_total {t : List (List K)} (ht : t ∈ Gen.binaryTables.map (·.2)) (a b : Val) :
    evalBinary t U a b ≠ .panic := by
  obtain ⟨k, hk, hs⟩ := Props.C08.binary_cell_safe ht a b
  obtain ⟨k', hk', hs'⟩ := Props.C08.unary_cell_safe (t := U) (by decide) b
  exact Lemmas.C08.evalBinary_ne_panic hk hs (Lemmas.C08.unegVal_ne_panic hk' hs')

/-- EVERY binary operator table x EVERY ordered pair of operand kinds x every payload: the cell
yields a value, an error value or (for kernels outside the model) `unmodelled` — never a panic. -/
theorem no_binary_cell_panics (a b : Val) : ∀ p ∈ Gen.binaryTables, evalBinary p.2 U a b ≠ .panic :=
  fun _ hp => binary_cell_total (List.mem_map_of_mem hp) a b

/-- Likewise every unary vector. -/
theorem no_unary_cell_panics (a : Val) : ∀ p ∈ Gen.unaryTables, evalUnary p.2 a ≠ .panic :=
  fun _ hp => unary_cell_total (List.mem_map_of_mem hp) a

/-- No kernel of any table is routed an operand kind on which its unchecked payload access
(`AcquireIntValue()` etc.) would be a failed type assertion, and no cell is nil. -/
theorem no_kernel_gets_a_wrong_kind :
    Gen.binaryTables.all (fun p => Props.C07.tableKindSafe p.2) = true := Props.C07.cells_kind_safe

/-- Type inference from data never panics, for every byte string and every inference mode. -/
theorem inference_never_panics (f : Infer.Flag) (s : Bytes) : Infer.infer f s ≠ .panic :=
  Props.C06.infer_no_panic f s

/-- The variadic min/max never panic, whatever the number and kinds of their arguments. -/
theorem variadic_minmax_total (vs : List Val) :
    Lemmas.C08.vmax vs ≠ .panic ∧ Lemmas.C08.vmin vs ≠ .panic :=
  ⟨Lemmas.C08.variadic_ne_panic (binary_cell_total (by decide)) (unary_cell_total (by decide)) vs,
   Lemmas.C08.variadic_ne_panic (binary_cell_total (by decide)) (unary_cell_total (by decide)) vs⟩

theorem variadic_minmax_never_panic (a b : Val) :
    Lemmas.C08.vmax [a, b] ≠ .panic ∧ Lemmas.C08.vmin [a, b] ≠ .panic :=
  variadic_minmax_total [a, b]

end Props.C18
end Miller
