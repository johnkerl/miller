/-
C10 — Aggregating verbs equal first-principles recomputation, group by group.

The models (`Model/Verbs/Stats.lean`) are the STREAMING algorithms as the Go verbs run them
(an insertion-ordered map from the joined group-by texts to per-group state, updated record by
record; numbers through the regenerated `+`/`/`/min/max disposition tables) and are tied to
pkg/transformers by the `verbs`/`verbsx` correspondence.  The theorems say that for EVERY input
stream the streaming computation equals the stateless definition: group the records by the exact
texts of the group-by fields, in first-appearance order, and fold each group's own records.
-/
import MillerModel.Lemmas.C10
import MillerModel.Lemmas.C07
namespace Miller
namespace Props.C10
open Verbs Lemmas.C10 Lemmas.C11 Lemmas.Lists

/-- The records of group `k` (key = `joinKey` of the group-by texts), in input order. -/
abbrev groupOf (fs : List Bytes) (xs : List Rec) (k : Bytes) : List Rec := grp (gkey fs) xs k
/-- The distinct group keys in order of first appearance. -/
abbrev groupKeys (fs : List Bytes) (xs : List Rec) : List Bytes := dkeys (gkey fs) xs

/-- All grouped accumulations (count, count-distinct, uniq -g -c -n, count-similar, stats1): for
every update function, initial state, field list and input stream, the streaming accumulation
holds — per group, in first-appearance order of the groups — the group-by values of the group's
first record and the fold of the update over exactly that group's records in input order.  Records lacking a group-by field have no key and contribute to no group. -/
theorem accumulation_is_per_group_fold {α} (fs : List Bytes) (init : α) (upd : α → Rec → α) (xs : List Rec) :
    groupFold fs init upd xs
      = (groupKeys fs xs).map fun k => (k, (firstVals fs (groupOf fs xs k), (groupOf fs xs k).foldl upd init)) :=
  groupFold_eq fs init upd xs

theorem foldl_count (g : List Rec) (c : Nat) : g.foldl (fun (c : Nat) _ => c + 1) c = c + g.length := by
  rw [List.foldl_add_const, Nat.one_mul]

/-- `count -g`: one record per group, first-appearance order, carrying the group-by values and the
number of records of that group. -/
theorem count_by_group (fs : List Bytes) (out : Bytes) (xs : List Rec) :
    countVerb (some fs) false out xs
      = (groupKeys fs xs).map fun k =>
          Rec.put (groupRec fs (firstVals fs (groupOf fs xs k))) out (renderInt (groupOf fs xs k).length) := by
  simp only [countVerb, Bool.false_eq_true, if_false, groupFold_eq, perGroup, List.map_map,
    Function.comp_def, foldl_count, Nat.zero_add]

/-- Counts over all groups add up to the number of contributing records (those having every
group-by field). -/
theorem counts_add_up (fs : List Bytes) (xs : List Rec) :
    ((groupFold fs 0 (fun (c : Nat) _ => c + 1) xs).map (·.2.2)).sum
      = (xs.filter fun r => (gkey fs r).isSome).length := by
  simp only [groupFold_eq, ← sum_group_lengths, perGroup, List.map_map, Function.comp_def,
    foldl_count, Nat.zero_add]

/-- `count -d -g`, `count-distinct -n`, `uniq -n -g`: the number of distinct groups. -/
theorem distinct_count (fs : List Bytes) (out : Bytes) (xs : List Rec) :
    countVerb (some fs) true out xs = [[(out, renderInt (groupKeys fs xs).length)]] ∧
    countDistinct fs true out xs = [[(out, renderInt (groupKeys fs xs).length)]] ∧
    uniqGroup fs false true out xs = [[(out, renderInt (groupKeys fs xs).length)]] := by
  simp [countVerb, countDistinct, uniqGroup, groupFold_eq, perGroup]

/-- `count-similar`: records grouped in first-appearance order, input order within a group,
each with its group's size appended. -/
theorem count_similar_spec (fs : List Bytes) (out : Bytes) (xs : List Rec) :
    countSimilar fs out xs
      = (groupKeys fs xs).flatMap fun k =>
          (groupOf fs xs k).map fun r => Rec.put r out (renderInt (groupOf fs xs k).length) := by
  rw [countSimilar, groupFold_eq, perGroup, List.flatMap_map]
  simp only [foldl_snoc, List.nil_append]

/-- `stats1`: per group (first-appearance order) the emitted statistics are computed from the
accumulators folded over exactly that group's records. -/
theorem stats1_per_group (accs : List String) (vf gf : List Bytes) (xs : List Rec) :
    stats1 accs vf gf xs
      = ((groupKeys gf xs).map fun k =>
          (k, (firstVals gf (groupOf gf xs k), (groupOf gf xs k).foldl (stats1Upd (uniqNames vf)) ([] : OMap Acc)))).mapM
          fun p => stats1Emit (uniqNames accs) gf p.2.1 p.2.2 := by
  unfold stats1
  rw [groupFold_eq]
  rfl

/-- A record lacking every value field is left out of the accumulation. -/
theorem stats1_skips_records_without_value (vf : List Bytes) (st : OMap Acc) (r : Rec)
    (h : ∀ f ∈ vf, get r f = none) : stats1Upd vf st r = st := by
  unfold stats1Upd
  refine List.foldlRecOn (motive := (· = st)) vf _ rfl fun st' hst f hf => ?_
  rw [h f hf, hst]

/-- Repeated names in `-a`/`-f` lists are processed once: the list used is duplicate-free and has
the same members. -/
theorem uniqNames_nodup_same (l : List Bytes) : (uniqNames l).Nodup ∧ ∀ x, x ∈ uniqNames l ↔ x ∈ l :=
  ⟨nodup_foldl_addNew l [] List.nodup_nil, fun x => (mem_foldl_addNew l [] x).trans (by simp)⟩

/-- Every partial sum (and every summand) fits in int64. -/
def sumsFit : Int → List Int → Prop
  | acc, [] => I64 acc
  | acc, x :: xs => I64 acc ∧ I64 x ∧ sumsFit (acc + x) xs

theorem sumsFit_head {acc : Int} {xs : List Int} (h : sumsFit acc xs) : I64 acc := by
  cases xs with
  | nil => exact h
  | cons _ _ => exact h.1

theorem tvPlus_ints (a b : TV) (x y : Int) (ha : a.v = .int x) (hb : b.v = .int y)
    (hx : I64 x) (hy : I64 y) (hs : I64 (x + y)) : (tvPlus a b).v = .int (x + y) := by
  show outVal (Disp.evalBinary Gen.bifs_plus_dispositions Gen.bifs_uneg_dispositions a.v b.v) = _
  rw [ha, hb]
  show outVal (Out.val (Arith.plus_n_ii x y)) = _
  rw [Lemmas.C07.plus_exact x y hx hy]
  have : fitsI64 (x + y) = true := (fitsI64_iff _).mpr hs
  simp [outVal, Spec.Arith.plus, Spec.Arith.exactOrFloat, this]

/-- The `sum` accumulator over int values whose partial sums fit in 64 bits is the exact integer
sum — an int, never a float — for value lists of every length.  (`tvPlus` is `BIF_plus_binary`
through the regenerated `plus_dispositions`, the call stats1/merge-fields/step -a rsum make.) -/
theorem sum_of_ints_is_int (ts : List TV) (xs : List Int) (s : TV) (acc : Int)
    (hs : s.v = .int acc) (hts : ts.map TV.v = xs.map Val.int) (hfit : sumsFit acc xs) :
    (ts.foldl tvPlus s).v = .int (acc + xs.sum) := by
  induction xs generalizing ts s acc with
  | nil => simpa [List.map_eq_nil_iff.mp hts] using hs
  | cons x xs ih =>
    obtain ⟨t, ts, rfl, ht, hts⟩ := List.map_eq_cons_iff.mp hts
    obtain ⟨h1, h2, h3⟩ := hfit
    rw [List.foldl_cons, ih ts _ _ (tvPlus_ints s t acc x hs ht h1 h2 (sumsFit_head h3)) hts h3,
      List.sum_cons, Int.add_assoc]

/-- The accumulator's `sum` field is that fold. -/
theorem ingest_sum (a : Acc) (t : TV) (h : isNumericTV t = true) : (a.ingest t).sum = tvPlus a.sum t := by
  simp [Acc.ingest, h]

def ival (t : TV) : Int := match t.v with | .int x => x | _ => 0

theorem tvMax_ints (a b : TV) (ha : ∃ x, a.v = .int x) (hb : ∃ y, b.v = .int y) :
    tvMinMax true a b = (if ival a > ival b then a else b) ∧
    tvMinMax false a b = (if ival a < ival b then a else b) := by
  obtain ⟨x, ha⟩ := ha
  obtain ⟨y, hb⟩ := hb
  cases a with | mk av at_ => cases b with | mk bv bt =>
  subst ha; subst hb
  exact ⟨rfl, rfl⟩

theorem tvMax_absent (b : TV) (y : Int) (hb : b.v = .int y) :
    tvMinMax true { v := .absent } b = b ∧ tvMinMax false { v := .absent } b = b := by
  cases b with | mk bv bt =>
  subst hb
  exact ⟨rfl, rfl⟩

/-- The running maximum of int values is one of them and bounds them all. -/
theorem foldl_max_ints (ts : List TV) (a : TV) (hts : ∀ t ∈ a :: ts, ∃ y, t.v = .int y) :
    let r := ts.foldl (tvMinMax true) a
    r ∈ a :: ts ∧ ∀ t ∈ a :: ts, ival t ≤ ival r := by
  induction ts generalizing a with
  | nil => simp
  | cons t ts ih =>
    simp only [List.forall_mem_cons] at hts ih ⊢
    obtain ⟨ha, ht, hrest⟩ := hts
    rw [List.foldl_cons, (tvMax_ints a t ha ht).1]
    by_cases h : ival a > ival t
    · obtain ⟨hm, har, hle⟩ := ih a ⟨ha, hrest⟩
      rw [if_pos h]
      exact ⟨by rcases List.mem_cons.mp hm with h | h <;> simp [h], har, by omega, hle⟩
    · obtain ⟨hm, htr, hle⟩ := ih t ⟨ht, hrest⟩
      rw [if_neg h]
      exact ⟨List.mem_cons_of_mem a hm, by omega, htr, hle⟩

/-- The `max` accumulator (started absent, as stats1 does) over a non-empty list of int values
returns one of the input values themselves — an int, with its original text — and it is an
upper bound of them all; for every list length. -/
theorem max_of_ints_is_member (t : TV) (ts : List TV) (hts : ∀ u ∈ t :: ts, ∃ y, u.v = .int y) :
    let r := (t :: ts).foldl (tvMinMax true) { v := .absent }
    r ∈ t :: ts ∧ (∃ z, r.v = .int z) ∧ ∀ u ∈ t :: ts, ival u ≤ ival r := by
  obtain ⟨y, hy⟩ := hts t (by simp)
  rw [List.foldl_cons, (tvMax_absent t y hy).1]
  have ⟨hm, hle⟩ := foldl_max_ints ts t hts
  exact ⟨hm, hts _ hm, hle⟩

/-- The non-interpolated percentile index is always inside the sorted array. -/
theorem percentile_index_in_range (pb n : Nat) (h : 0 < n) : percentileIndexB pb n < n := by
  unfold percentileIndexB
  simp only
  omega

theorem sortTVs_perm (vs : List TV) : (sortTVs vs).Perm vs :=
  perm_insertionSort insTV (fun _ => rfl) (fun _ _ _ => ⟨_, _, rfl⟩) vs

/-- Sorting for percentiles neither loses nor invents values, and the percentile of a non-empty
group is one of the group's own values (non-interpolated percentiles never synthesise a number). -/
theorem percentile_is_a_member (pb : Nat) (t : TV) (ts : List TV) :
    (sortTVs (t :: ts)).length = (t :: ts).length ∧ percentileOfB pb (t :: ts) ∈ t :: ts := by
  have hperm := sortTVs_perm (t :: ts)
  have hidx : percentileIndexB pb (t :: ts).length < (sortTVs (t :: ts)).length := by
    rw [hperm.length_eq]
    exact percentile_index_in_range pb (t :: ts).length (by simp)
  refine ⟨hperm.length_eq, hperm.mem_iff.mp ?_⟩
  rw [percentileOfB, if_neg (by simp), List.getD_eq_getElem?_getD, List.getElem?_eq_getElem hidx]
  exact List.getElem_mem hidx

/-! Non-vacuity -/
example : sumsFit 0 [5, -7, 9223372036854775807] ∧ ¬ sumsFit 0 [9223372036854775807, 1] := by
  unfold sumsFit sumsFit sumsFit sumsFit I64; omega
example : countVerb (some [str "a"]) false (str "count")
    [[(str "a", str "x")], [(str "b", str "y")], [(str "a", str "z")], [(str "a", str "x")]]
    = [[(str "a", str "x"), (str "count", str "2")], [(str "a", str "z"), (str "count", str "1")]] := by decide
example : percentileIndex 50 5 = 2 ∧ percentileIndex 100 5 = 4 ∧ percentileIndex 0 5 = 0 ∧ percentileIndex 25 4 = 1 := by
  decide +kernel

end Props.C10
end Miller
