/-
C19 — In-place mode never leaves a file half-written.

The order of the file-system operations of processFileInPlace and the cleanup in its error
branches are REGENERATED from the Go source (`Gen.inPlaceSteps`); the theorems are about the
operation sequences that order produces, for every original content, every transformed content,
every way the transformed bytes are cut into writes, and every crash or failure point.
The run-time half (a real process stopped at each hook point; real error paths) is the T3 part of
the check.
-/
import MillerModel.Lemmas.C19
namespace Miller
namespace Props.C19
open InPlace Lemmas.C19

/-- ATOMICITY: stop a successful run after ANY number `k` of its file-system operations (a crash at
any instant, between any two writes): the named file holds either its complete original bytes or
its complete transformed bytes — never a truncated, empty or mixed state.  For every original
content, every transformed content and every cutting of it into writes. -/
theorem atomic_at_every_crash_point (chunks : List Bytes) (old : Bytes) (om mode k : Nat) (ops : List Op)
    (hops : successOps Gen.inPlaceSteps chunks mode = some ops) :
    content (run (ops.take k) { f := some (old, om), t := none }).f = some old ∨
    content (run (ops.take k) { f := some (old, om), t := none }).f = some chunks.flatten := by
  obtain rfl : (plan chunks mode).flatten = ops := Option.some.inj ((success_plan chunks mode).symm.trans hops)
  have := content_take _ [.chmod mode] (quiet_before_rename chunks mode 10 (Nat.le_refl _)) (by simp [quiet])
    { f := some (old, om), t := none } k
  rwa [run_before_rename, ← plan_flatten] at this

/-- After the complete run the named file holds the transformed bytes with its ORIGINAL mode, and
no temporary file remains. -/
theorem success_result (chunks : List Bytes) (old : Bytes) (om : Nat) (ops : List Op)
    (hops : successOps Gen.inPlaceSteps chunks om = some ops) :
    run ops { f := some (old, om), t := none } = { f := some (chunks.flatten, om), t := none } := by
  obtain rfl : (plan chunks om).flatten = ops := Option.some.inj ((success_plan chunks om).symm.trans hops)
  rw [plan_flatten, run_append, run_before_rename]
  rfl

/-- ERROR PATHS: whichever checked call fails — with, for stream.Stream, any number `j` of the
writes already done — the run ends with NO temporary file left behind and the named file complete:
the original bytes if the failure precedes the rename, the transformed bytes otherwise. -/
theorem error_paths_clean (chunks : List Bytes) (old : Bytes) (om mode i j : Nat) (ops : List Op)
    (hchecked : (Gen.inPlaceSteps[i]?.map (·.2.1)) = some true)
    (hops : failureOps Gen.inPlaceSteps chunks mode i
              (if Gen.inPlaceSteps[i]?.map (·.1) = some "stream.Stream" then (chunks.take j).map .write else [])
            = some ops) :
    (run ops { f := some (old, om), t := none }).t = none ∧
    (content (run ops { f := some (old, om), t := none }).f = some old ∨
     (i = 11 ∧ content (run ops { f := some (old, om), t := none }).f = some chunks.flatten)) := by
  rw [failure_plan] at hops
  match i with
  | 0 | 1 | 2 | 3 | 4 =>
    -- the temporary file does not exist yet
    cases hops
    exact ⟨rfl, Or.inl rfl⟩
  | 5 => cases hchecked  -- `lib.FindInputEncoding`, the one call of the table whose error is not checked
  | 6 | 7 | 8 | 9 | 10 =>
    -- the error branch removes the temporary file, and the rename has not happened
    cases hops
    exact And.imp_right Or.inl (removeTemp_after_quiet _ _
      (List.forall_mem_append.mpr ⟨quiet_before_rename chunks mode _ (by decide), quiet_writes _ _⟩))
  | 11 =>
    cases hops
    rw [show ((plan chunks mode).take 11).flatten = ((plan chunks mode).take 10).flatten ++ [.rename] by simp [plan],
      run_append, run_append, run_append, run_before_rename]
    exact ⟨rfl, Or.inr ⟨rfl, rfl⟩⟩
  | n + 12 => cases hchecked  -- the table has 12 rows

/-! Non-vacuity: the premises are met, e.g. failure of stream.Stream after one of two writes. -/
example : (failureOps Gen.inPlaceSteps [[1], [2]] 0o644 7 [.write [1]]).isSome = true := by
  rw [failure_plan]
  rfl
example : (successOps Gen.inPlaceSteps [[1], [2]] 0o644).isSome = true := by
  rw [success_plan]
  rfl

end Props.C19
end Miller
