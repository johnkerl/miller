/-
C01 — Every file format round-trips its own output and speaks the standard dialect.

Proved here (all inputs, no bound): the TSV escape codec and the TSV line (splitting on TAB undoes
joining with it), and the CSV field / record / stream round trip through the model of the forked
encoding/csv reader state machine.  The models (Model/Formats/*) are tied to the
real readers and writers by the in-process correspondence `rt`/`rd` (same bytes, same records).
Formats without a Lean model (JSON, XTAB, PPRINT, NIDX, markdown, YAML, DKVPX, csvlite) are covered
by the round-trip spec predicate on the implementation only (stated in the evidence).
-/
import MillerModel.Lemmas.C01
namespace Miller
namespace Props.C01
open Lemmas.C01

/-- TSV: decoding an encoded field gives the field back, for every byte string. -/
theorem tsv_decode_encode (s : Bytes) : Tsv.decode (Tsv.encode s) = s :=
  Lemmas.C01.tsv_decode_encode s

/-- TSV: encoded text never contains a raw TAB, LF or CR, so fields and lines split
unambiguously. -/
theorem tsv_encode_no_sep (s : Bytes) : 9 ∉ Tsv.encode s ∧ 10 ∉ Tsv.encode s ∧ 13 ∉ Tsv.encode s :=
  Lemmas.C01.tsv_encode_no_sep s

/-- TSV line: splitting the TAB-join of encoded fields and decoding gives the fields back
(any number ≥ 1 of fields, any bytes). -/
theorem tsv_line_roundtrip (fields : List Bytes) (hne : fields ≠ []) :
    (Split.splitByte 9 (Split.join [9] (fields.map Tsv.encode)) []).map Tsv.decode = fields := by
  obtain ⟨f, fs, rfl⟩ := List.exists_cons_of_ne_nil hne
  have hfree : ∀ x ∈ (f :: fs).map Tsv.encode, 9 ∉ x :=
    List.forall_mem_map.mpr fun f _ => (tsv_encode_no_sep f).1
  rw [List.map_cons, Lemmas.Split.splitByte_join 9 _ _ hfree [], List.nil_append, ← List.map_cons, List.map_map]
  exact List.map_id'' tsv_decode_encode _

/-- CSV field: for EVERY byte string `f` (separators, quotes, CR, LF, anything), every legal
separator and with or without --quote-all, the reader's field scanner recovers exactly `f` from
the writer's rendering, whether a separator or a line end follows. -/
theorem csv_field_roundtrip (comma : Nat) (g : GoodComma comma) (quoteAll : Bool) (f rest : Bytes) :
    Csv.scanField comma (Csv.writeField comma quoteAll false f ++ comma :: rest) = .ok ⟨f, false, rest⟩ ∧
    Csv.scanField comma (Csv.writeField comma quoteAll false f ++ 10 :: rest) = .ok ⟨f, true, rest⟩ :=
  field_roundtrip g quoteAll f rest

/-- CSV record: a written line scans back to exactly its fields (any count ≥ 1). -/
theorem csv_record_roundtrip (comma : Nat) (g : GoodComma comma) (quoteAll : Bool)
    (fields : List Bytes) (hne : fields ≠ []) (rest : Bytes) :
    Csv.scanRecord comma (fields.length) (lineText comma quoteAll fields ++ rest) [] = .ok (fields, rest) := by
  obtain ⟨f, fs, rfl⟩ := List.exists_cons_of_ne_nil hne
  exact scanRecord_line g quoteAll f fs rest [] _ (Nat.lt_succ_self _)

/-- The representable domain used by `csv_roundtrip` (LF mode, header on): a non-empty rectangular
stream over a non-empty list of pairwise distinct keys whose first key does not begin with the
UTF-8 byte-order mark's first byte, and cells free of CR.  (CR not followed by LF is also
representable; that part of the domain is covered by correspondence only.)
`Spec.Repr.csv`, the decidable predicate on which the driver requires the implementation's round
trip, is another, wider one: every record has the same non-empty duplicate-free keys and no cell
contains CR LF; it says nothing of the empty stream or of a byte-order mark, and no theorem
relates the two. -/
structure CsvRepr (keys : List Bytes) (rs : List Rec) : Prop where
  nonempty : rs ≠ []
  keysNonempty : keys ≠ []
  rect : ∀ r ∈ rs, r.keys = keys
  nodup : keys.Nodup
  crfreeKeys : ∀ k ∈ keys, 13 ∉ k
  crfreeVals : ∀ r ∈ rs, ∀ v ∈ r.vals, 13 ∉ v
  noBom : ∀ k rest, keys = k :: rest → k.head? ≠ some 0xEF

/-- CSV STREAM ROUND TRIP: on the representable domain, reading what the writer wrote yields the
same records — same names, same order, same value bytes — for every legal separator, with or
without --quote-all. -/
theorem csv_roundtrip (wo : Csv.WOpts) (ro : Csv.ROpts) (g : GoodComma wo.comma)
    (hc : ro.comma = wo.comma) (hlf : wo.crlf = false) (hh : wo.headerless = false)
    (hi : ro.implicitHeader = false)
    (keys : List Bytes) (rs : List Rec) (H : CsvRepr keys rs) :
    ∃ text, Csv.write wo rs = .ok text ∧ Csv.read ro text = .ok rs := by
  refine ⟨_, write_rect wo hlf hh keys rs H.nonempty H.rect, ?_⟩
  rw [← hc] at g ⊢
  rw [read_lines ro g wo.quoteAll (keys :: rs.map Rec.vals)]
  · simp [Csv.toRecords, hi, toRecords_rect ro keys rs [] H.rect H.nodup]
  · -- a data row is as long as the (non-empty) key list
    refine List.forall_mem_cons.mpr ⟨H.keysNonempty, List.forall_mem_map.mpr fun r hr h => H.keysNonempty ?_⟩
    simpa [← H.rect r hr, Rec.keys, Rec.vals] using h
  · exact List.forall_mem_cons.mpr ⟨H.crfreeKeys, List.forall_mem_map.mpr H.crfreeVals⟩
  · intro k ks rest h
    exact H.noBom k ks (List.cons.inj h).1

/-! Non-vacuity: the hypotheses of `csv_roundtrip` are met by a stream full of separators, quotes
and line ends, and the theorem's conclusion is what evaluation gives. -/
def sampleKeys : List Bytes := [str "a,b", str "q\"", str ""]
def sampleRecs : List Rec :=
  [[(str "a,b", str "x\ny"), (str "q\"", str "\"\""), (str "", str "")],
   [(str "a,b", str ","), (str "q\"", str "\\."), (str "", str " z")]]

example : GoodComma 44 := ⟨by decide, by decide, by decide, by decide⟩
example : CsvRepr sampleKeys sampleRecs :=
  ⟨by decide, by decide, by decide, by decide, by decide, by decide,
   fun k rest h => by simp only [sampleKeys, List.cons.injEq] at h; obtain ⟨rfl, _⟩ := h; decide⟩
example : (Csv.write {} sampleRecs).toOption.bind (fun t => (Csv.read {} t).toOption) = some sampleRecs := by decide

end Props.C01
end Miller
