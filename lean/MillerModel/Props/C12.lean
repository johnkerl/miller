/-
C12 — Field-restructuring verbs do exactly their rearrangement and invert cleanly.

Models: Model/Verbs/Restructure.lean (Mlrmap list surgery + cut, reorder, rename, label,
regularize, sort-within-records, unsparsify, sparsify, fill-empty, template, altkv), tied to the
real transformers by the in-process `verbs` correspondence (96k cases in the thorough tier agree).
-/
import MillerModel.Lemmas.C12
import MillerModel.Lemmas.Lists
namespace Miller
namespace Props.C12
open Verbs Lemmas.C12

/-- cut -f F and cut -x -f F split each record into complementary parts, both in record order. -/
theorem cut_complement (fields : List Bytes) (r : Rec) :
    List.Perm (cutInclude fields r ++ cutExclude fields r) r ∧
    List.Sublist (cutInclude fields r) r ∧ List.Sublist (cutExclude fields r) r :=
  Lemmas.C12.cut_complement fields r

/-- Renaming a field to its own name changes nothing (the former defect, see known_findings). -/
theorem rename_self (r : Rec) (a : Bytes) : rename r a a = r := by
  unfold rename
  cases Verbs.get r a <;> simp

/-- rename a,b then rename b,a is the identity when b is new (whether or not a is present). -/
theorem rename_inverse (r : Rec) (a b : Bytes) (hb : has r b = false) (hab : a ≠ b) :
    rename (rename r a b) b a = r := Lemmas.C12.rename_inverse r a b hb hab

/-- rename leaves every other field's value alone. -/
theorem rename_bystander (r : Rec) (a b k : Bytes) (hka : k ≠ a) (hkb : k ≠ b) :
    Verbs.get (rename r a b) k = Verbs.get r k := by
  unfold rename
  cases Verbs.get r a with
  | none => rfl
  | some v =>
    dsimp only
    by_cases hab : (a == b) = true
    · rw [if_pos hab]
    · by_cases hhb : has r b = true
      · rw [if_neg hab, if_pos hhb, get_remove _ _ _ hka, get_rekey _ _ _ _ _ hkb hkb]
      · rw [if_neg hab, if_neg hhb, get_rekey _ _ _ _ _ hka hkb]

/-- unsparsify: one output per input, rebuilt over the union of all field names in first-seen
order with the filler where a field was missing — hence rectangular. -/
theorem unsparsify_spec (fill : Bytes) (xs : List Rec) :
    (unsparsify fill).run xs
      = xs.map (fun r => (unionKeysFrom [] xs).map fun k => (k, (Verbs.get r k).getD fill)) :=
  Lemmas.C12.unsparsify_spec fill xs

theorem unsparsify_rectangular (fill : Bytes) (xs : List Rec) :
    ∀ out ∈ (unsparsify fill).run xs, out.keys = unionKeysFrom [] xs :=
  Lemmas.C12.unsparsify_rectangular fill xs

/-- sort-within-records only permutes the fields of a record. -/
theorem sort_within_records_perm (rev : Bool) (r : Rec) : List.Perm (sortWithinRecords rev r) r :=
  Lemmas.Lists.perm_insertionSort (insertSorted _) (fun _ => rfl) (fun _ _ _ => ⟨_, _, rfl⟩) r

/-- fill-empty changes only empty values: names and order are kept, non-empty values untouched. -/
theorem fill_empty_spec (fill : Bytes) (r : Rec) :
    (fillEmpty fill r).keys = r.keys ∧
    ∀ p ∈ r, p.2.isEmpty = false → p ∈ fillEmpty fill r := by
  constructor
  · unfold fillEmpty Rec.keys
    rw [List.map_map]; apply List.map_congr_left; intro p _
    by_cases h : p.2.isEmpty = true <;> simp [Function.comp, h]
  · intro p hp hne
    exact List.mem_map.mpr ⟨p, hp, by simp [hne]⟩

/-- sparsify removes fields, never alters one. -/
theorem sparsify_sublist (filler : Bytes) (only : Option (List Bytes)) (r : Rec) :
    List.Sublist (sparsify filler only r) r :=
  List.filter_sublist

/-! Non-vacuity / concrete instances -/
example : rename [(str "a", str "1"), (str "b", str "2"), (str "c", str "3")] (str "a") (str "a")
    = [(str "a", str "1"), (str "b", str "2"), (str "c", str "3")] := by decide
example : (unsparsify []).run [[(str "a", str "1"), (str "b", str "2")], [(str "b", str "3"), (str "c", str "4")]]
    = [[(str "a", str "1"), (str "b", str "2"), (str "c", [])], [(str "a", []), (str "b", str "3"), (str "c", str "4")]] := by decide

end Props.C12
end Miller
