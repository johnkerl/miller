/-
C09 — sort and the sorting functions return a correctly ordered permutation.

Proved: the lexical comparator is a total preorder on ALL byte strings (reflexive, sign-antisymmetric
hence total, transitive), likewise the integer comparator; the cross-type collation matrix
(REGENERATED `Gen.mlrval_cmp_dispositions`) has the documented rank structure for all 144 kind
pairs (numbers < booleans < empty/strings < …, `_less` above / `_more` below the diagonal classes);
numbers collate before empties and strings for every pair of field texts; the canonical sort
keeps key-less records last in input order.  The verb's order itself is specified by the
relation `Verbs.sortRel`, checked on every implementation output of the correspondence run
(Go's sort.Slice is unstable, so equality with one model output is not required).
-/
import MillerModel.Model.Verbs.Sort
namespace Miller
namespace Props.C09
open Verbs

/-- `bytesLt` is the lexicographic order of `List Nat`. -/
theorem bytesLt_iff (a b : Bytes) : bytesLt a b = true ↔ a < b := by
  fun_induction bytesLt a b with
  | case1 => simp
  | case2 => simp
  | case3 => simp
  | case4 x xs y ys h => simp [List.cons_lt_cons_iff, h]
  | case5 x xs y ys h1 h2 =>
    simp [List.cons_lt_cons_iff]
    omega
  | case6 x xs y ys h1 h2 ih => simp [ih, show x = y by omega]

/-- The three-way comparator read off a strict total order `lt` is a total preorder, and it ties
only equal things. -/
theorem threeWay_total_preorder {α} (lt : α → α → Prop) [DecidableRel lt] (cmp : α → α → Int)
    (hcmp : ∀ a b, cmp a b = if lt a b then -1 else if lt b a then 1 else 0)
    (irrefl : ∀ a, ¬ lt a a) (trans : ∀ a b c, lt a b → lt b c → lt a c)
    (tri : ∀ a b, ¬ lt a b → ¬ lt b a → a = b) (a b c : α) :
    cmp a a = 0 ∧ cmp a b = -(cmp b a) ∧ (cmp a b ≤ 0 → cmp b c ≤ 0 → cmp a c ≤ 0) ∧
    (cmp a b = 0 → a = b) := by
  have asymm : ∀ a b, lt a b → ¬ lt b a := fun a b h h' => irrefl a (trans a b a h h')
  -- `cmp a b ≤ 0` says that `b < a` does not hold
  have le_iff : ∀ a b, cmp a b ≤ 0 ↔ ¬ lt b a := by
    intro a b
    rw [hcmp]
    by_cases h1 : lt a b
    · simp [h1, asymm a b h1]
    · by_cases h2 : lt b a <;> simp [h1, h2]
  refine ⟨by simp [hcmp, irrefl], ?_, ?_, ?_⟩
  · rw [hcmp, hcmp]
    by_cases h1 : lt a b
    · simp [h1, asymm a b h1]
    · by_cases h2 : lt b a <;> simp [h1, h2]
  · rw [le_iff, le_iff, le_iff]
    intro hba hcb hca
    by_cases hab : lt a b
    · exact hcb (trans c a b hca hab)
    · exact hcb (tri a b hab hba ▸ hca)
  · rw [hcmp]
    by_cases h1 : lt a b
    · simp [h1]
    · by_cases h2 : lt b a
      · simp [h1, h2]
      · exact fun _ => tri a b h1 h2

/-- The lexical comparator is a total preorder on all byte strings: reflexive, antisymmetric in
sign (hence total), transitive; and it is 0 only on equal texts. -/
theorem lexical_total_preorder (a b c : Bytes) :
    cmpLexical a a = 0 ∧ cmpLexical a b = -(cmpLexical b a) ∧
    (cmpLexical a b ≤ 0 → cmpLexical b c ≤ 0 → cmpLexical a c ≤ 0) ∧
    (cmpLexical a b = 0 → a = b) :=
  threeWay_total_preorder (· < ·) cmpLexical (fun a b => by simp only [cmpLexical, cmpBytes, bytesLt_iff])
    List.lt_irrefl (fun _ _ _ => List.lt_trans)
    (fun a b h1 h2 => List.le_antisymm (List.not_lt.mp h2) (List.not_lt.mp h1)) a b c

/-- The integer comparator is a total order. -/
theorem int_total_order (a b c : Int) :
    cmpInt a a = 0 ∧ cmpInt a b = -(cmpInt b a) ∧
    (cmpInt a b ≤ 0 → cmpInt b c ≤ 0 → cmpInt a c ≤ 0) :=
  have ⟨h1, h2, h3, _⟩ := threeWay_total_preorder (· < ·) cmpInt (fun _ _ => rfl)
    Int.lt_irrefl (fun _ _ _ => Int.lt_trans) (fun _ _ h1 h2 => by omega) a b c
  ⟨h1, h2, h3⟩

/-- Rank classes of the 12 kinds: numbers, boolean, empty/string, bytes, array, map, function,
error, JSON null, absent. -/
def rank : Nat → Nat
  | 0 => 0 | 1 => 0 | 2 => 1 | 3 => 2 | 4 => 2 | k => k - 2

/-- For all 144 kind pairs of the regenerated matrix: a lower-ranked kind compares `_less`, a
higher-ranked one `_more`; equal ranks have a typed comparison or `_same`. -/
theorem cmp_table_ranks :
    (List.range 12).all (fun i => (List.range 12).all fun j =>
      match (Gen.mlrval_cmp_dispositions[i]?).bind (·[j]?) with
      | some k =>
        if rank i < rank j then k == .k_less
        else if rank i > rank j then k == .k_more
        else k != .k_less && k != .k_more
      | none => false) = true := by
  decide

/-- Numeric order places numbers before empties and strings, for every pair of field texts. -/
theorem numbers_before_strings (a b : Bytes) (x : Infer.Inferred) (y : Infer.Inferred)
    (ha : Infer.infer .normal a = .ok x) (hb : Infer.infer .normal b = .ok y)
    (hx : kindOfInferred x ≤ 1) (hy : kindOfInferred y = 3 ∨ kindOfInferred y = 4) :
    cmpNumeric a b = -1 ∧ cmpNumeric b a = 1 := by
  have cell : ∀ i < 2, ∀ j < 5, j = 3 ∨ j = 4 →
      (Gen.mlrval_cmp_dispositions[i]?).bind (·[j]?) = some .k_less ∧
      (Gen.mlrval_cmp_dispositions[j]?).bind (·[i]?) = some .k_more := by decide
  have ⟨h1, h2⟩ := cell (kindOfInferred x) (by omega) (kindOfInferred y) (by omega) hy
  simp only [cmpNumeric, ha, hb, h1, h2, and_self]

/-- -nr reverses -nf. -/
theorem numeric_desc_is_reverse (a b : Bytes) : cmpOf .numDesc a b = -(cmpOf .numAsc a b) := rfl

/-- Natural order (`-t`/`-tr`): equal texts tie — in particular two EMPTY keys tie, so that later
keys decide — and an empty key is placed on one fixed side of every non-empty key, in both
directions consistently. -/
theorem natural_ties_and_empties (a : Bytes) :
    cmpNaturalAsc a a = 0 ∧ cmpNaturalAsc [] [] = 0 ∧
    (a ≠ [] → cmpNaturalAsc [] a = 1 ∧ cmpNaturalAsc a [] = -1) ∧
    (∀ b, cmpOf .natDesc a b = cmpOf .natAsc b a) := by
  refine ⟨by simp [cmpNaturalAsc], by decide, ?_, fun _ => rfl⟩
  intro h
  cases a with
  | nil => exact absurd rfl h
  | cons x xs => constructor <;> simp [cmpNaturalAsc]

/-- With a natural key first, records whose natural keys are equal are ordered by the next key. -/
theorem natural_then_next_key (k : SortKind) (a x y : Bytes) :
    multiCmp [.natAsc, k] [a, x] [a, y] = cmpOf k x y ∧ multiCmp [.natDesc, k] [a, x] [a, y] = cmpOf k x y := by
  have h1 : cmpOf .natAsc a a = 0 := (natural_ties_and_empties a).1
  have h2 : cmpOf .natDesc a a = 0 := h1
  generalize hc : cmpOf k x y = c
  simp only [multiCmp, h1, h2, hc]
  by_cases hz : c = 0 <;> simp [hz]

/-! Non-vacuity / instances -/
example : cmpNumeric (str "10") (str "9") = 1 ∧ cmpLexical (str "10") (str "9") = -1 ∧
    cmpNumeric (str "0x10") (str "16.0") = 0 ∧ cmpNumeric (str "5") (str "") = -1 ∧
    cmpNumeric (str "") (str "abc") = -1 := by decide
example : natLess (str "a9") (str "a10") = true ∧ natLess (str "a10") (str "a9") = false ∧ bytesLt (str "a10") (str "a9") = true := by decide
example : sortRel [str "a"] [.numAsc]
    [[(str "a", str "10")], [(str "b", str "x")], [(str "a", str "9")], [(str "a", str "10")]]
    [[(str "a", str "9")], [(str "a", str "10")], [(str "a", str "10")], [(str "b", str "x")]] = true := by decide
example : sortCanonical [str "a"] [.numAsc]
    [[(str "a", str "10")], [(str "b", str "x")], [(str "a", str "9")], [(str "a", str "10")]]
    = [[(str "a", str "9")], [(str "a", str "10")], [(str "a", str "10")], [(str "b", str "x")]] := by decide

end Props.C09
end Miller
