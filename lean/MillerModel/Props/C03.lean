/-
C03 — Fields a chain does not assign pass through byte-for-byte.
-/
import MillerModel.Model.Mlrval
import MillerModel.Gen.Facts
namespace Miller
namespace Props.C03
open Mlrval Infer

/-- The invariant every read operation keeps: the original text is retained and marked valid. -/
def Keeps (s : Bytes) (c : Cell) : Prop := c.printrep = s ∧ c.valid = true

theorem inferCell_keeps (f : Flag) (s : Bytes) (c : Cell) (h : Keeps s c) : Keeps s (inferCell f c) := by
  unfold inferCell
  split
  · exact h
  · split <;> first | exact h | exact ⟨h.1, rfl⟩

theorem setPrintRep_keeps (s : Bytes) (c : Cell) (h : Keeps s c) : Keeps s (setPrintRep c) := by
  unfold setPrintRep; simp [h.2]; exact h

theorem applyRead_keeps (f : Flag) (s : Bytes) (c : Cell) (op : ReadOp) (h : Keeps s c) :
    Keeps s (applyRead f c op) := by
  cases op
  · exact inferCell_keeps f s c h
  · exact inferCell_keeps f s c h
  · exact setPrintRep_keeps s _ (inferCell_keeps f s c h)
  · exact h
  · exact h

theorem readOps_keep (f : Flag) (s : Bytes) (ops : List ReadOp) (c : Cell) (h : Keeps s c) :
    Keeps s (ops.foldl (applyRead f) c) :=
  List.foldlRecOn ops _ h fun c hc op _ => applyRead_keeps f s c op hc

/-- For EVERY field text, every inference flag and every sequence of read operations (type
tests, numeric reads, string reads, copies — in any order, any number), the value is written
with exactly the text it had on input. -/
theorem read_ops_preserve_text (f : Flag) (s : Bytes) (ops : List ReadOp) :
    stringOf f (ops.foldl (applyRead f) (fromDeferred s)) = s :=
  (setPrintRep_keeps s _ (inferCell_keeps f s _ (readOps_keep f s ops _ ⟨rfl, rfl⟩))).1

/-- The set of functions in pkg/mlrval that can write the retained text is exactly the reviewed
one: constructors, the three inference setters, `String` (collections only), `setPrintRep`
(only when no text is valid), whole-value overwrites in `PutIndexed`/`UnmarshalJSON`, the record
arena.  No accessor, comparator, `Type()`, `Copy()` or inferrer is in it.  REGENERATED fact. -/
theorem printrep_write_set :
    Gen.printrepWriters =
      ["<package-level literal in mlrval_constants.go>", "FromAnonymousError", "FromArray", "FromBytes",
       "FromDeferredType", "FromError", "FromErrorString", "FromFloat", "FromFunction", "FromInferredType",
       "FromInt", "FromIntShowingOctal", "FromMap", "FromPending", "FromString", "Mlrval.PutIndexed(*recv=)",
       "Mlrval.SetFromPrevalidatedFloatString", "Mlrval.SetFromPrevalidatedIntString", "Mlrval.SetFromString",
       "Mlrval.String", "Mlrval.UnmarshalJSON(*recv=)", "Mlrval.setPrintRep", "RecordArena.newValue"] :=
  -- unfolding the list and matching literal against literal; `decide` would run `String.decEq`
  rfl

/-- Every inference setter call in mlrval_infer.go stores back the value's own text
(`mv.printrep`), never a re-rendering.  REGENERATED fact. -/
theorem infer_setters_keep_text :
    Gen.inferSetterCalls ≠ [] ∧ Gen.inferSetterCalls.all (fun c => c.2.2 == "mv.printrep") = true := by
  decide

/-! Non-vacuity -/
example : stringOf .normal ([ReadOp.numeric, .string, .typeOf, .copy].foldl (applyRead .normal) (fromDeferred (str "0x1F")))
    = str "0x1F" := by decide
example : (inferCell .normal (fromDeferred (str "0x1F"))).typ = .int ∧ (inferCell .normal (fromDeferred (str "0x1F"))).intv = 31 := by decide

end Props.C03
end Miller
