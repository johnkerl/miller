/-
C05 — then-chaining equals piping; inputs concatenate; NR/FNR/FILENAME track source.

Chain semantics and the reader's context bookkeeping as Lean models (`Model/Pipeline.lean`); the
real pipeline (goroutines, files, stdin, decompression, prepipes) is exercised by the T3 part of
the check, which also compares `mlr A then B` with `mlr A | mlr B` on the real binary.
-/
import MillerModel.Model.Pipeline
namespace Miller
namespace Props.C05
open Pipeline

/-- `A then B` is B applied to the output of A, for chains of every length on both sides: running
the concatenated chain equals running the first part and feeding its output to the second (what
piping `mlr A` into `mlr B` through a lossless intermediate format does; losslessness of the
formats is C01). -/
theorem then_is_composition (as bs : List AnyMachine) (xs : List Rec) :
    chainRun (as ++ bs) xs = chainRun bs (chainRun as xs) := by
  simp [chainRun]

/-- … and likewise for three-way splits (longer chains). -/
theorem then_is_associative (as bs cs : List AnyMachine) (xs : List Rec) :
    chainRun (as ++ bs ++ cs) xs = chainRun cs (chainRun bs (chainRun as xs)) := by
  rw [then_is_composition, then_is_composition]

theorem contextsFrom_length (nr fnum : Nat) (counts : List Nat) :
    (contextsFrom nr fnum counts).length = counts.sum := by
  induction counts generalizing nr fnum with
  | nil => rfl
  | cons c rest ih => simp [contextsFrom, ih]

/-- One context per record: reading files f1..fn yields as many records as the files hold. -/
theorem one_context_per_record (counts : List Nat) : (contexts counts).length = counts.sum :=
  contextsFrom_length 0 0 counts

/-- The context of the `i`-th record (0-based) of a reading that starts after `nr` records and
`fnum` files. -/
theorem contextsFrom_at (nr fnum : Nat) (counts : List Nat) (i : Nat) (c : Ctx)
    (h : (contextsFrom nr fnum counts)[i]? = some c) :
    c.nr = nr + i + 1 ∧ 1 ≤ c.fnr ∧ c.fnr ≤ c.nr ∧ c.filenum = c.filename + 1 ∧
      c.filename < fnum + counts.length := by
  induction counts generalizing nr fnum i with
  | nil => simp [contextsFrom] at h
  | cons k rest ih =>
    simp only [contextsFrom, List.getElem?_append, List.length_map, List.length_range] at h
    split at h
    · next hi =>
      rw [List.getElem?_map, List.getElem?_range hi] at h
      cases h
      simp
    · have := ih _ _ _ h
      rw [List.length_cons]
      omega

/-- NR counts 1..N across all files: the i-th record read (0-based) has NR = i + 1, whatever the
files' sizes (empty files included). -/
theorem nr_counts_across_files (counts : List Nat) (i : Nat) (h : i < (contexts counts).length) :
    ((contexts counts)[i]).nr = i + 1 := by
  have := (contextsFrom_at 0 0 counts i _ (List.getElem?_eq_getElem h)).1
  rwa [Nat.zero_add] at this

/-- Reading several files is the concatenation of reading each alone as far as FNR, FILENAME and
FILENUM are concerned: the records of the k-th file (0-based) have FNR = 1, 2, …, FILENUM = k+1
and that file's name; NR continues from the records read before. -/
theorem files_concatenate (nr fnum c : Nat) (rest : List Nat) :
    contextsFrom nr fnum (c :: rest)
      = ((List.range c).map fun i => ({ nr := nr + i + 1, fnr := i + 1, filenum := fnum + 1, filename := fnum } : Ctx))
        ++ contextsFrom (nr + c) (fnum + 1) rest := rfl

/-- FNR restarts at 1 in each file and FILENAME/FILENUM name the file the record came from. -/
theorem fnr_restarts_and_filename_tracks (counts : List Nat) :
    ∀ c ∈ contexts counts, 1 ≤ c.fnr ∧ c.fnr ≤ c.nr ∧ c.filenum = c.filename + 1 ∧ c.filename < counts.length := by
  intro c hc
  obtain ⟨i, hi⟩ := List.mem_iff_getElem?.mp hc
  have := (contextsFrom_at 0 0 counts i c hi).2
  rwa [Nat.zero_add] at this

/-! Non-vacuity -/
example : contexts [2, 0, 1] = [⟨1, 1, 1, 0⟩, ⟨2, 2, 1, 0⟩, ⟨3, 1, 3, 2⟩] := by decide

end Props.C05
end Miller
