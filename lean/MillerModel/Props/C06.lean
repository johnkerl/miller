/-
C06 — Type inference from data follows the documented number grammar exactly.

Property theorems only (helper lemmas live in Lemmas/C06.lean).  The model (`Model/Scan`,
`Model/Infer`) mirrors pkg/scan and pkg/mlrval/mlrval_infer.go and reads the four digit tables,
the ScanType enum and both inferrer tables from the REGENERATED `Gen/ScanTables.lean`; the spec
(`Spec/NumberGrammar`) is the grammar of the property statement.
-/
import MillerModel.Lemmas.C06
namespace Miller
namespace Props.C06
open Spec.NumberGrammar Infer Lemmas.C06

/-- The regenerated 128-entry byte tables of pkg/scan/digits.go are exactly the documented
character classes, for every byte value (and every `Nat`). -/
theorem scan_tables_correct (c : Nat) :
    Scan.isDecimalDigit c = isDec c ∧ Scan.isOctalDigit c = isOct c ∧
    Scan.isHexDigit c = isHex c ∧ Scan.isFloatDigit c = isFloatChar c :=
  ⟨congrFun decFun c, congrFun octFun c, congrFun hexFun c, congrFun fltFun c⟩

/-- The hand-written scanner state machine equals the declarative grammar on every string. -/
theorem findScanType_eq_grammar (s : Bytes) : Scan.findScanType s = scanClass s :=
  findScanType_eq s

/-- FULL STATEMENT of the property on the model: for every flag and every field text, inference
yields what the documented grammar says. -/
def C06_infer_eq_classify : Prop := ∀ (f : Flag) (s : Bytes), Infer.infer f s = .ok (classify f s)

/-- Proved part: the statement holds for every flag and every string outside the four finding
classes (`findingClass f s = none`, a decidable predicate: prefixed / leading-zero numerals beyond
int64 and float or integer numerals beyond the double range); on those the text stays a string
(`Lemmas.C06.infer_eq`).  The regenerated inferrer tables enter through `inferrerTables_eq`, which
evaluates every table entry, so a re-ordered table breaks this proof. -/
theorem infer_eq_classify_partial (f : Flag) (s : Bytes) (h : findingClass f s = none) :
    Infer.infer f s = .ok (classify f s) := by
  rw [infer_eq, if_pos h]

/-- Decimal numerals beyond 64 bits had the defect of the next theorem (inferred as strings);
since `fix:` commit 70ccdc105 in /repo they are floats. -/
theorem decimal_overflow_is_float :
    Infer.infer .normal (str "99999999999999999999") = .ok (.float 0x4415af1d78b58c40) := by
  -- through `infer_eq`, here and below: `decide` then evaluates the grammar and the finding class
  -- of the one input, and the inferrer tables are not looked up again
  rw [infer_eq]
  decide

/-- The code violates the full statement: a prefixed numeral that does not fit in 64 bits is
inferred as a *string*, not a float (witness `0x10000000000000000`; finding
prefixed-int-overflow). -/
theorem C06_infer_eq_classify_counterexample_prefixed :
    Infer.infer .normal (str "0x10000000000000000") ≠ .ok (classify .normal (str "0x10000000000000000")) := by
  rw [infer_eq]
  decide

/-- Same for float syntax beyond the double range (witness `1e400`; finding float-overflow). -/
theorem C06_infer_eq_classify_counterexample_float :
    Infer.infer .normal (str "1e400") ≠ .ok (classify .normal (str "1e400")) := by
  rw [infer_eq]
  decide

/-- Same for -O leading-zero numerals (witness `077777777777777777777777`; finding lz-int-overflow). -/
theorem C06_infer_eq_classify_counterexample_lz :
    Infer.infer .octal (str "077777777777777777777777") ≠ .ok (classify .octal (str "077777777777777777777777")) := by
  rw [infer_eq]
  decide

theorem C06_infer_eq_classify_counterexample : ¬ C06_infer_eq_classify :=
  fun h => C06_infer_eq_classify_counterexample_prefixed (h .normal _)

/-- Inference never panics (every Go slice expression in inferHexInt/inferBaseInt is in range
*because* of the scan class: `skipPrefix_eq`), for every flag and every string — including the
finding classes. -/
theorem infer_no_panic (f : Flag) (s : Bytes) : Infer.infer f s ≠ .panic := by
  rw [infer_eq]
  exact Outcome.noConfusion

/-- `-S`: every value is a string (or empty). -/
theorem S_all_strings (s : Bytes) :
    Infer.infer .stringOnly s = .ok (if s.isEmpty then .void else .string) := by
  simp [Infer.infer, Infer.inferStringOnly, Infer.inferString, Infer.setFromString]

/-- `-A`: no value is ever inferred as an int. -/
theorem A_no_ints (s : Bytes) (v : Int) : Infer.infer .intAsFloat s ≠ .ok (.int v) := by
  simp only [Infer.infer, Infer.inferWithIntAsFloat]
  split <;> simp_all

/-- JSON string values are never inferred. -/
theorem json_string_never_inferred (s : Bytes) :
    Infer.fromString s = .string ∨ Infer.fromString s = .void := by
  unfold Infer.fromString Infer.setFromString; split <;> simp

/-- The classification depends on the text alone and the empty string is the empty value. -/
theorem empty_is_void (f : Flag) : Infer.infer f [] = .ok .void := by
  cases f <;> decide

/-! Non-vacuity: the hypothesis of the partial theorem is met by ordinary and by boundary inputs,
and the theorem then pins down concrete results. -/
example : findingClass .normal (str "0xff") = none ∧ classify .normal (str "0xff") = .int 255 := by decide
example : findingClass .normal (str "-9223372036854775808") = none ∧
    classify .normal (str "-9223372036854775808") = .int (-9223372036854775808) := by decide
example : findingClass .normal (str "0xffffffffffffffff") = none ∧
    classify .normal (str "0xffffffffffffffff") = .int (-1) := by decide
example : findingClass .octal (str "0377") = none ∧ classify .octal (str "0377") = .int 255 ∧
    classify .normal (str "0377") = .string := by decide
example : findingClass .normal (str "1.5e3") = none ∧
    classify .normal (str "1.5e3") = .float 0x4097700000000000 := by decide
example : classify .normal (str "1_000") = .string ∧ classify .normal (str "Inf") = .string := by decide

end Props.C06
end Miller
