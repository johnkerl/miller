/-
C11 — Record-selecting verbs only select: nothing altered or invented, counts add up.

Each verb is modelled as the state machine its `Transform` method implements
(Model/Verbs/Select.lean, tied to the real transformers by the in-process `verbs`
correspondence); the theorems say that for EVERY input list the machine computes the stateless
list specification of Spec/Select.lean.
-/
import MillerModel.Lemmas.C11
namespace Miller
namespace Props.C11
open Verbs Spec.Select Lemmas.C11 Lemmas.Lists Lemmas.VerbLaws

/-- head -n k is the first k records. -/
theorem head_take (n : Nat) (xs : List Rec) : (headUnkeyed n).run xs = xs.take n :=
  headUnkeyed_runFrom n 0 xs

/-- head -n k -g fields: a record is kept iff it has the fields and fewer than k earlier records
share its key — i.e. the first k of every group, in input order; key-less records are dropped. -/
theorem head_keyed (n : Nat) (fields : List Bytes) (xs : List Rec) :
    (headKeyed n fields).run xs = Spec.Select.head n fields xs := by
  refine counting_machine fields (fun c => decide (c < n)) (headKeyed n fields) rfl (fun m r => ?_)
    (fun _ => rfl) xs
  simp only [headKeyed, keyedStep]
  cases groupKey fields r <;> simp [Nat.lt_iff_add_one_le]

/-- tail -n +k: everything from the k-th record of each group on. -/
theorem tail_from_start (skip : Nat) (fields : List Bytes) (xs : List Rec) :
    (tailFromStart skip fields).run xs = Spec.Select.tailFrom skip fields xs := by
  refine counting_machine fields (fun c => decide (c ≥ skip)) (tailFromStart skip fields) rfl
    (fun m r => ?_) (fun _ => rfl) xs
  simp only [tailFromStart, keyedStep]
  cases groupKey fields r <;> simp [Nat.lt_iff_add_one_le]

/-- decimate -n k [-b|-e] [-g]: every k-th record of each group. -/
theorem decimate_spec (n rem : Nat) (fields : List Bytes) (xs : List Rec) :
    (Verbs.decimate n rem fields).run xs = Spec.Select.decimate n rem fields xs := by
  refine counting_machine fields (fun c => c % n == rem) (Verbs.decimate n rem fields) rfl
    (fun m r => ?_) (fun _ => rfl) xs
  simp only [Verbs.decimate, keyedStep]
  cases groupKey fields r <;> simp

/-- |head -n k| + |tail -n +(k+1)| = number of records having the group-by fields (= N unkeyed). -/
theorem head_tail_partition (k : Nat) (fields : List Bytes) (xs : List Rec) :
    (Spec.Select.head k fields xs).length + (Spec.Select.tailFrom k fields xs).length
      = (xs.filter (fun r => (groupKey fields r).isSome)).length := by
  refine filterHist_length_add _ _ _ (fun pre r => ?_) [] xs
  cases groupKey fields r with
  | none => rfl
  | some key => by_cases h : cnt fields pre key < k <;> simp [h, Nat.le_of_not_lt]

/-- tac reverses; tac twice is the identity. -/
theorem tac_reverse (xs : List Rec) : tac.run xs = xs.reverse := by
  rw [Machine.run, run_silent tac (fun acc r => acc ++ [r]) (fun _ _ => rfl), foldl_snoc]
  rfl
theorem tac_tac (xs : List Rec) : tac.run (tac.run xs) = xs := by
  rw [tac_reverse, tac_reverse, List.reverse_reverse]

/-- group-by: groups in first-appearance order, input order within each group, records lacking
a group-by field dropped. -/
theorem group_by_spec (fields : List Bytes) (xs : List Rec) :
    (Verbs.groupBy fields).run xs = Spec.Select.groupBy fields xs :=
  groupMachine_run (groupKey fields) xs

/-- group-like: the same with the list of field names as the key. -/
theorem group_like_spec (xs : List Rec) :
    Verbs.groupLike.run xs =
      (dkeys (fun r => some (joinKey r.keys)) xs).flatMap
        (grp (fun r => some (joinKey r.keys)) xs) :=
  groupMachine_run (fun r => some (joinKey r.keys)) xs

/-- Selectors only select: every record output by head / tail -n +k / decimate (any count, any
group-by list) is an input record, unchanged and in input order (a sublist). -/
theorem selectors_sublist (n rem : Nat) (fields : List Bytes) (xs : List Rec) :
    List.Sublist ((headKeyed n fields).run xs) xs ∧
    List.Sublist ((tailFromStart n fields).run xs) xs ∧
    List.Sublist ((Verbs.decimate n rem fields).run xs) xs ∧
    List.Sublist ((headUnkeyed n).run xs) xs := by
  refine ⟨?_, ?_, ?_, ?_⟩
  · rw [head_keyed]; exact filterHist_sublist _ _ _
  · rw [tail_from_start]; exact filterHist_sublist _ _ _
  · rw [decimate_spec]; exact filterHist_sublist _ _ _
  · rw [head_take]; exact List.take_sublist n xs

/-- group-by outputs only input records. -/
theorem group_by_members (fields : List Bytes) (xs : List Rec) :
    ∀ r ∈ (Verbs.groupBy fields).run xs, r ∈ xs := by
  intro r hr
  rw [group_by_spec] at hr
  obtain ⟨k, _, hk⟩ := List.mem_flatMap.mp hr
  exact (List.mem_filter.mp hk).1

/-- nothing outputs nothing. -/
theorem nothing_spec (xs : List Rec) : Verbs.nothing.run xs = [] :=
  run_silent Verbs.nothing (fun _ _ => ()) (fun _ _ => rfl) () xs

/-- Groups are formed by the EXACT texts of the group-by fields: the grouping key (escaped
comma-join, `GetSelectedValuesJoined`) of two value lists of the same length is the same only if
the lists are equal — whatever bytes, commas and backslashes included, the values contain.
(Before the fix 94fce798a the plain comma-join mapped ["x,y","z"] and ["x","y,z"] to one key.) -/
theorem grouping_key_injective (a b : List Bytes) (hl : a.length = b.length) (h : joinKey a = joinKey b) : a = b :=
  joinKey_injective a b hl h

/-- Hence two records fall in the same group exactly when they agree on every group-by field. -/
theorem same_group_iff_same_values (fields : List Bytes) (r s : Rec) (k : Bytes)
    (hr : groupKey fields r = some k) (hs : groupKey fields s = some k) :
    fields.mapM (get r) = fields.mapM (get s) := by
  unfold groupKey at hr hs
  split at hr
  · simp_all
  · rw [if_neg ‹_›] at hs
    exact mapM_eq_of_joinKey_eq _ _ hr hs rfl

/-! Non-vacuity -/
example : (headKeyed 1 [str "a"]).run [[(str "a", str "x")], [(str "b", str "y")], [(str "a", str "x"), (str "c", str "1")], [(str "a", str "z")]]
    = [[(str "a", str "x")], [(str "a", str "z")]] := by decide

end Props.C11
end Miller
