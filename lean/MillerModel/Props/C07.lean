/-
C07 — Arithmetic is exact on 64-bit ints, overflows to float, and never crashes.

The binary operators are stated THROUGH the regenerated disposition tables (`Gen/Disp.lean`) and
the regenerated kernel signatures: `Disp.evalBinary <table> …` first looks the cell up in the table
the translator extracted from pkg/bifs on this run, so a re-routed cell breaks the proof.
`madd msub mmul mexp` have no table and are stated on `Arith.modop`.
The int64 kernels are the hand-written models of `Model/Arith` (tied by correspondence).
-/
import MillerModel.Lemmas.C07
import MillerModel.Model.Disp
namespace Miller
namespace Props.C07
open Arith Disp Lemmas.C07

abbrev U := Gen.bifs_uneg_dispositions

/-- `+` on two int64: the exact sum when it fits in 64 bits, otherwise the IEEE sum of the
converted operands — never a wrapped integer. -/
theorem plus_exact (a b : Int) (ha : I64 a) (hb : I64 b) :
    evalBinary Gen.bifs_plus_dispositions U (.int a) (.int b) = .val (Spec.Arith.plus a b) :=
  congrArg Out.val (Lemmas.C07.plus_exact a b ha hb)

theorem minus_exact (a b : Int) (ha : I64 a) (hb : I64 b) :
    evalBinary Gen.bifs_minus_dispositions U (.int a) (.int b) = .val (Spec.Arith.minus a b) :=
  congrArg Out.val (Lemmas.C07.minus_exact a b ha hb)

theorem times_exact (a b : Int) (ha : I64 a) (hb : I64 b) :
    evalBinary Gen.bifs_times_dispositions U (.int a) (.int b) = .val (Spec.Arith.times a b) :=
  congrArg Out.val (Lemmas.C07.times_exact a b ha hb)

/-- `/`: the exact integer quotient when one exists and fits, a float otherwise; zero divisor
gives the IEEE quotient (±Inf/NaN), `-2^63 / -1` a float. -/
theorem divide_exact (a b : Int) (ha : I64 a) (hb : I64 b) :
    evalBinary Gen.bifs_divide_dispositions U (.int a) (.int b) = .val (Spec.Arith.divide a b) :=
  congrArg Out.val (Lemmas.C07.divide_exact a b ha hb)

/-- `//` floors. -/
theorem int_divide_floors (a b : Int) (ha : I64 a) (hb : I64 b) :
    evalBinary Gen.bifs_int_divide_dispositions U (.int a) (.int b) = .val (Spec.Arith.intDivide a b) :=
  congrArg Out.val (Lemmas.C07.int_divide_exact a b ha hb)

/-- `%` takes the divisor's sign (floor modulus).  (`ha` is not needed: the floor remainder is bounded by
the divisor alone.) -/
theorem modulus_sign_of_divisor (a b : Int) (ha : I64 a) (hb : I64 b) :
    evalBinary Gen.bifs_modulus_dispositions U (.int a) (.int b) = .val (Spec.Arith.modulus a b) :=
  congrArg Out.val (Lemmas.C07.modulus_exact a b hb)

/-- …and the floor modulus really is `0 ≤ r < |b|` with the sign of `b`, `a = b*(a // b) + r`. -/
theorem fmod_spec (a b : Int) (hb : b ≠ 0) :
    a = b * Int.fdiv a b + Int.fmod a b ∧
    (0 < b → 0 ≤ Int.fmod a b ∧ Int.fmod a b < b) ∧ (b < 0 → b < Int.fmod a b ∧ Int.fmod a b ≤ 0) :=
  ⟨(Int.mul_fdiv_add_fmod a b).symm, fmod_bound a hb⟩

/-- The dot operators are 64-bit two's-complement (wrap-around) arithmetic. -/
theorem dot_ops_wrap (a b : Int) :
    evalBinary Gen.bifs_dot_plus_dispositions U (.int a) (.int b) = .val (.int (wrap (a + b))) ∧
    evalBinary Gen.bifs_dotminus_dispositions U (.int a) (.int b) = .val (.int (wrap (a - b))) ∧
    evalBinary Gen.bifs_dottimes_dispositions U (.int a) (.int b) = .val (.int (wrap (a * b))) :=
  ⟨rfl, rfl, rfl⟩

/-- `& | ^` and the three shifts are the `BitVec 64` operations; shift counts are taken as
uint64, counts of 64 and more (incl. negative counts) shift everything out. -/
theorem bits_twos_complement (a b : Int) :
    evalBinary Gen.bifs_bitwise_and_dispositions U (.int a) (.int b) = .val (.int (bv a &&& bv b).toInt) ∧
    evalBinary Gen.bifs_bitwise_or_dispositions U (.int a) (.int b) = .val (.int (bv a ||| bv b).toInt) ∧
    evalBinary Gen.bifs_bitwise_xor_dispositions U (.int a) (.int b) = .val (.int (bv a ^^^ bv b).toInt) ∧
    evalBinary Gen.bifs_left_shift_dispositions U (.int a) (.int b) = .val (lsh a b) ∧
    evalBinary Gen.bifs_signed_right_shift_dispositions U (.int a) (.int b) = .val (srsh a b) ∧
    evalBinary Gen.bifs_unsigned_right_shift_dispositions U (.int a) (.int b) = .val (ursh a b) :=
  ⟨rfl, rfl, rfl, rfl, rfl, rfl⟩

/-- min/max of two ints are ints (the exact min/max). -/
theorem min_max_int (a b : Int) :
    evalBinary Gen.bifs_min_dispositions U (.int a) (.int b) = .val (.int (min a b)) ∧
    evalBinary Gen.bifs_max_dispositions U (.int a) (.int b) = .val (.int (max a b)) := by
  constructor
  · show Out.val (min_i_ii a b) = _
    unfold min_i_ii
    congr 2
    omega
  · show Out.val (max_i_ii a b) = _
    unfold max_i_ii
    congr 2
    omega

/-- Mixed int/float operands: the IEEE-754 operation on the converted operands. -/
theorem mixed_is_ieee (a : Int) (x y : Nat) :
    evalBinary Gen.bifs_plus_dispositions U (.int a) (.float y) = .val (.float (F64.add (F64.ofInt a) y)) ∧
    evalBinary Gen.bifs_plus_dispositions U (.float x) (.int a) = .val (.float (F64.add x (F64.ofInt a))) ∧
    evalBinary Gen.bifs_plus_dispositions U (.float x) (.float y) = .val (.float (F64.add x y)) ∧
    evalBinary Gen.bifs_minus_dispositions U (.int a) (.float y) = .val (.float (F64.sub (F64.ofInt a) y)) ∧
    evalBinary Gen.bifs_minus_dispositions U (.float x) (.int a) = .val (.float (F64.sub x (F64.ofInt a))) ∧
    evalBinary Gen.bifs_times_dispositions U (.int a) (.float y) = .val (.float (F64.mul (F64.ofInt a) y)) ∧
    evalBinary Gen.bifs_times_dispositions U (.float x) (.int a) = .val (.float (F64.mul x (F64.ofInt a))) ∧
    evalBinary Gen.bifs_divide_dispositions U (.int a) (.float y) = .val (.float (F64.div (F64.ofInt a) y)) ∧
    evalBinary Gen.bifs_divide_dispositions U (.float x) (.int a) = .val (.float (F64.div x (F64.ofInt a))) ∧
    evalBinary Gen.bifs_divide_dispositions U (.float x) (.float y) = .val (.float (F64.div x y)) :=
  ⟨rfl, rfl, rfl, rfl, rfl, rfl, rfl, rfl, rfl, rfl⟩

/-- madd/msub/mmul/mexp are exact modular arithmetic for every positive int64 modulus and all
int64 operands (no intermediate overflow), and an error value — not a crash — for modulus 0 or a
negative exponent. -/
theorem modops_exact (a b m : Int) (hm : 0 ≤ m) (hm64 : I64 m) :
    modop .add a b m = Spec.Arith.madd a b m ∧
    modop .sub a b m = Spec.Arith.msub a b m ∧
    modop .mul a b m = Spec.Arith.mmul a b m ∧
    (I64 b → modop .exp a b m = Spec.Arith.mexp a b m) := by
  unfold modop Spec.Arith.madd Spec.Arith.msub Spec.Arith.mmul Spec.Arith.mexp
  by_cases h0 : m = 0
  · simp [h0]
  · have hpos : 0 < m := by omega
    obtain ⟨h1, h2, h3⟩ := imod_exact a b hpos hm64
    refine ⟨by simp [h0, h1], by simp [h0, h2], by simp [h0, h3], fun hb64 => ?_⟩
    by_cases hb : b < 0
    · simp [hb]
    · simp [hb, h0, mexp_exact a b (by omega) hb64 hpos hm64]

/-- Does a value of kind `k` (the MT_* constant) carry the payload the access reads? -/
def acqKindOk : Acq → Nat → Bool
  | .int, 0 => true | .float, 1 => true | .bool, 2 => true
  | .string, 3 => true | .string, 4 => true | .bytes, 5 => true | .array, 6 => true | .map, 7 => true
  | _, _ => false

def tableKindSafe (t : List (List Gen.K)) : Bool :=
  (List.range 12).all fun i => (List.range 12).all fun j =>
    match cell2 t i j with
    | none => false
    | some k => (Gen.kernelSig k).acq1.all (acqKindOk · i) && (Gen.kernelSig k).acq2.all (acqKindOk · j)

/-- Every cell of every arithmetic/bitwise/min/max table names a function (no nil cell) and no
kernel is routed an operand kind on which its unchecked `Acquire*Value()` type assertion would
panic — for all 12×12 kind pairs of all regenerated binary tables (shared with C08/C18). -/
theorem cells_kind_safe : Gen.binaryTables.all (fun p => tableKindSafe p.2) = true := by
  decide +kernel

/-- No operands crash the numeric kernels: for int/float operands of every kind combination the
arithmetic tables yield a value (number or error), never a panic. -/
theorem arith_no_panic (a b : Int) (x y : Nat) :
    ∀ t ∈ [Gen.bifs_plus_dispositions, Gen.bifs_minus_dispositions, Gen.bifs_times_dispositions,
           Gen.bifs_divide_dispositions, Gen.bifs_int_divide_dispositions, Gen.bifs_modulus_dispositions,
           Gen.bifs_dot_plus_dispositions, Gen.bifs_dotminus_dispositions, Gen.bifs_dottimes_dispositions,
           Gen.bifs_dotdivide_dispositions, Gen.bifs_min_dispositions, Gen.bifs_max_dispositions],
      (∃ v, evalBinary t U (.int a) (.int b) = .val v) ∧ (∃ v, evalBinary t U (.int a) (.float y) = .val v) ∧
      (∃ v, evalBinary t U (.float x) (.int b) = .val v) ∧ (∃ v, evalBinary t U (.float x) (.float y) = .val v) := by
  intro t ht
  simp only [List.mem_cons, List.mem_nil_iff, or_false] at ht
  rcases ht with h | h | h | h | h | h | h | h | h | h | h | h <;> subst h <;>
    exact ⟨⟨_, rfl⟩, ⟨_, rfl⟩, ⟨_, rfl⟩, ⟨_, rfl⟩⟩

/-! Non-vacuity / boundary witnesses (kernel-evaluated): the former defects now come out right. -/
example : evalBinary Gen.bifs_plus_dispositions U (.int minI64) (.int minI64) = .val (.float 0xc3f0000000000000) := by decide +kernel
example : evalBinary Gen.bifs_minus_dispositions U (.int 0) (.int minI64) = .val (.float 0x43e0000000000000) := by decide +kernel
example : evalBinary Gen.bifs_times_dispositions U (.int 16440948372290153) (.int 561) = .val (.float 0x43dfffffffffffff) := by decide +kernel
example : evalBinary Gen.bifs_times_dispositions U (.int maxI64) (.int 1) = .val (.int maxI64) := by decide
example : evalBinary Gen.bifs_modulus_dispositions U (.int 6) (.int (-3)) = .val (.int 0) := by decide
example : evalBinary Gen.bifs_modulus_dispositions U (.int 7) (.int (-3)) = .val (.int (-2)) := by decide
example : evalBinary Gen.bifs_int_divide_dispositions U (.int (-7)) (.int 2) = .val (.int (-4)) := by decide
example : modop .mul 4611686018427387904 4 7 = .int 2 ∧ modop .exp 10 1 7 = .int 3 ∧ modop .add 5 3 0 = .error := by decide

end Props.C07
end Miller
