/-
C02 — Format conversion changes syntax only; nesting flattens/unflattens losslessly.

This file holds the flatten/unflatten part: the round-trip theorem for `Model/Flatten.lean` (tied to
Mlrmap.Flatten / CopyUnflattened on JSON values by the `flat` correspondence), its domain stated as
four explicit decidable conditions, and the documented lossy corner as a witness.  The flag and
separator-alias equivalences of C02 have no Lean part: the check compares every flag with its
documented expansion on the real option parser (in-process, deep equality of the parsed options).
-/
import MillerModel.Model.Flatten
import MillerModel.Lemmas.Split
namespace Miller
namespace Props.C02
open Flatten

def keysOf (d : Doc) : List (List Bytes × Leaf) := d.map fun e => (e.1.map (·.key), e.2)

/-- The collections that flatten/unflatten represents faithfully, for separator byte `sep`:
every key is non-empty and free of the separator; no scalar is the text of a sentinel; the leaves
are listed in tree order; and a node is tagged as an array exactly when its children's keys are
1..n in order (so: arrays are arrays, and no MAP has the keys 1..n — such a map comes back as an
array, the documented lossy corner). All four are decidable predicates on the document alone. -/
structure Representable (sep : Nat) (d : Doc) : Prop where
  keys : ∀ e ∈ d, e.1 ≠ [] ∧ ∀ c ∈ e.1, c.key ≠ [] ∧ sep ∉ c.key
  scalars : ∀ e ∈ d, ∀ s, e.2 = .scalar s → s ≠ [123, 125] ∧ s ≠ [91, 93]
  treeOrder : regroup (((keysOf d).map (·.1.length)).foldl max 0 + 1) 0 (keysOf d) = keysOf d
  tags : ∀ e ∈ d, tagPath ((keysOf d).map (·.1)) (e.1.map (·.key)) = e.1

theorem keyPath_join (sep : Nat) (ks : List Bytes) (hne : ks ≠ []) (h : ∀ k ∈ ks, k ≠ [] ∧ sep ∉ k) :
    keyPath sep (Split.join [sep] ks) = ks := by
  obtain ⟨x, xs, rfl⟩ := List.exists_cons_of_ne_nil hne
  have hall : (x :: xs).all (fun p => !p.isEmpty) = true :=
    List.all_eq_true.mpr fun p hp => by simpa using (h p hp).1
  rw [keyPath, Lemmas.Split.splitByte_join sep x xs (fun z hz => (h z hz).2) [], List.nil_append, if_pos hall]
  -- a single key is returned either way; two or more are joined with `sep`, which is then found
  cases xs <;> simp [Split.join]

theorem terminal_leafText (l : Leaf) (h : ∀ s, l = .scalar s → s ≠ [123, 125] ∧ s ≠ [91, 93]) :
    terminal (leafText l) = l := by
  cases l with
  | scalar s =>
    have := h s rfl
    simp [terminal, leafText, this.1, this.2]
  | emptyMap => rfl
  | emptyArr => rfl

/-- Flattening a representable nested record and unflattening the result gives the
record back — same leaves, same paths, same map/array structure, same order — for records of any
width and nesting depth. -/
theorem unflatten_flatten (sep : Nat) (d : Doc) (h : Representable sep d) : unflatten sep (flatten sep d) = d := by
  -- splitting and decoding the flat record gives the untagged entries back
  have hraw : (flatten sep d).map (fun p => (keyPath sep p.1, terminal p.2)) = keysOf d := by
    rw [flatten, keysOf, List.map_map]
    refine List.map_congr_left fun e he => ?_
    have hk := h.keys e he
    exact Prod.ext (keyPath_join sep _ (by simpa using hk.1) (List.forall_mem_map.mpr hk.2))
      (terminal_leafText e.2 (h.scalars e he))
  -- they are in tree order already, and tagging restores each path
  have htag : (keysOf d).map (fun e => (tagPath ((keysOf d).map (·.1)) e.1, e.2)) = d := by
    rw [keysOf, List.map_map]
    exact (List.map_congr_left fun e he => congrArg (·, e.2) (h.tags e he)).trans (List.map_id d)
  simpa only [unflatten, hraw, h.treeOrder] using htag

/-- The documented lossy corner is real: a MAP whose keys are 1..n is not representable — it
comes back as an array. -/
theorem map_with_index_keys_comes_back_as_array :
    unflatten 46 (flatten 46 [([⟨str "a", false⟩, ⟨str "1", false⟩], .scalar (str "x")),
                              ([⟨str "a", false⟩, ⟨str "2", false⟩], .scalar (str "y"))])
      = [([⟨str "a", false⟩, ⟨str "1", true⟩], .scalar (str "x")),
         ([⟨str "a", false⟩, ⟨str "2", true⟩], .scalar (str "y"))] := by decide

/-! Non-vacuity: a three-level record with an array, an empty map and an empty array is representable. -/
def sample : Doc := [([⟨str "a", false⟩], .scalar (str "1")),
  ([⟨str "b", false⟩, ⟨str "x", false⟩], .scalar (str "2")),
  ([⟨str "b", false⟩, ⟨str "y", false⟩, ⟨str "1", true⟩], .scalar (str "3")),
  ([⟨str "b", false⟩, ⟨str "y", false⟩, ⟨str "2", true⟩], .emptyMap),
  ([⟨str "c", false⟩], .emptyArr)]
example : unflatten 46 (flatten 46 sample) = sample := by decide
example : flatten 46 sample = [(str "a", str "1"), (str "b.x", str "2"), (str "b.y.1", str "3"), (str "b.y.2", str "{}"), (str "c", str "[]")] := by decide

end Props.C02
end Miller
