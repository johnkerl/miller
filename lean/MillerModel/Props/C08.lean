/-
C08 — Absent and empty values obey the documented null-data algebra.

The laws about operand KINDS (absent identity, empty rules, error absorption, commutative result
kinds, kind safety of every cell, guarded `Assign` call sites) are finite, the operand-kind matrix
IS the quantifier: each is a `decide` over the whole REGENERATED table set (`Gen/Disp.lean`, 12×12
cells per operator) read through the REGENERATED body classification of each cell function
(`Gen/KernelSigs.lean`).  Kind safety is then read at VALUES (what C18 builds on), and the laws of
the variadic `min`/`max` are about values, with every payload.
-/
import MillerModel.Gen.Facts
import MillerModel.Lemmas.C08
import MillerModel.Props.C07
namespace Miller
namespace Props.C08
open Gen Disp Spec.NullData Lemmas.C08

/-- Operators for which absent is a two-sided identity on ints and floats. -/
def accumulatingNum : List (List (List K)) :=
  [bifs_plus_dispositions, bifs_minus_dispositions, bifs_times_dispositions,
   bifs_dot_plus_dispositions, bifs_dotminus_dispositions, bifs_dottimes_dispositions,
   bifs_dotdivide_dispositions, bifs_min_dispositions, bifs_max_dispositions]

/-- Division-like operators (`/ // ** %`). -/
def divisionLike : List (List (List K)) :=
  [bifs_divide_dispositions, bifs_int_divide_dispositions, bifs_pow_dispositions, bifs_modulus_dispositions]

/-- Bitwise operators and shifts (ints only). -/
def bitwise : List (List (List K)) :=
  [bifs_bitwise_and_dispositions, bifs_bitwise_or_dispositions, bifs_bitwise_xor_dispositions,
   bifs_left_shift_dispositions, bifs_signed_right_shift_dispositions, bifs_unsigned_right_shift_dispositions]

/-- FULL STATEMENT: absent is the identity of accumulation for every arithmetic, dot, bitwise,
min and max operator: `absent op x = x`, `x op absent = x` (x int or float; int for bitwise),
`absent op absent = absent`. -/
def C08_absent_identity : Prop :=
  (∀ t ∈ accumulatingNum ++ divisionLike, absentIdentityAt t 0 = true ∧ absentIdentityAt t 1 = true) ∧
  (∀ t ∈ bitwise, absentIdentityAt t 0 = true) ∧
  (∀ t ∈ accumulatingNum ++ divisionLike ++ bitwise, absentAbsent t = true)

/-- Proved part: the identity laws for `+ - * .+ .- .* ./ min max` (int and float), the bitwise
operators and shifts (int), `absent op absent = absent` for all of them and the division-like
operators, and `x op absent = x` for `/ // ** %`. -/
theorem absent_identity_partial :
    (∀ t ∈ accumulatingNum, absentIdentityAt t 0 = true ∧ absentIdentityAt t 1 = true) ∧
    (∀ t ∈ bitwise, absentIdentityAt t 0 = true) ∧
    (∀ t ∈ accumulatingNum ++ divisionLike ++ bitwise, absentAbsent t = true) ∧
    (∀ t ∈ divisionLike, cellRet t 0 11 = some .in1 ∧ cellRet t 1 11 = some .in1) := by
  decide +kernel

/-- The code violates the full statement exactly for an absent LEFT operand of `/ // ** %`:
`absent / x` is 0 (cells `_i0__`/`_f0__`), not `x`  (finding absent-dividend). -/
theorem C08_absent_identity_counterexample : ¬ C08_absent_identity := by
  intro h
  have := (h.1 bifs_divide_dispositions (by decide)).1
  revert this; decide

/-- The math-library functions of an absent argument return absent. -/
theorem mathlib_absent :
    cell1 bifs_mudispo 11 = some .k_math_unary_absn1 ∧ (kernelSig .k_math_unary_absn1).ret = .absent ∧
    cell1 bifs_imudispo 11 = some .k_math_unary_absn1 := by decide

/-- Empty rules as tabulated in the null-data reference: empty with a number yields the number
for `+ * .+ .*` and `min`; `empty - x` is `-x` and `x - empty` is `x`; `max` keeps the empty
(numbers sort before empty); empty with empty is empty; for `/ // ** % ./` and the bitwise
operators empty with a number is empty. -/
theorem empty_rules :
    (∀ t ∈ [bifs_plus_dispositions, bifs_times_dispositions, bifs_dot_plus_dispositions, bifs_dottimes_dispositions, bifs_min_dispositions],
       ∀ k ∈ [0, 1], cellRet t 3 k = some .in2 ∧ cellRet t k 3 = some .in1) ∧
    (∀ t ∈ [bifs_minus_dispositions, bifs_dotminus_dispositions],
       ∀ k ∈ [0, 1], cellRet t 3 k = some .neg2 ∧ cellRet t k 3 = some .in1) ∧
    (∀ k ∈ [0, 1], cellRet bifs_max_dispositions 3 k = some .in1 ∧ cellRet bifs_max_dispositions k 3 = some .in2) ∧
    (∀ t ∈ divisionLike ++ bitwise ++ [bifs_dotdivide_dispositions],
       ∀ k ∈ [0, 1], cellRet t 3 k = some .void ∧ cellRet t k 3 = some .void) ∧
    (∀ t ∈ accumulatingNum ++ divisionLike ++ bitwise, cellRet t 3 3 = some .void) := by
  decide +kernel

/-- An error operand combined with any scalar (int, float, boolean, empty, string, error) yields
an error, in both positions, for every arithmetic, dot, bitwise, min and max operator. -/
theorem error_absorbs :
    ∀ t ∈ accumulatingNum ++ divisionLike ++ bitwise,
      ∀ k ∈ [0, 1, 2, 3, 4, 9], cellRet t 9 k = some .error ∧ cellRet t k 9 = some .error := by
  decide +kernel

/-- Commutative operators give the same result kind for `(a,b)` and `(b,a)` over all 144
operand-kind pairs. -/
theorem commutative_kinds :
    ∀ t ∈ [bifs_plus_dispositions, bifs_times_dispositions, bifs_dot_plus_dispositions, bifs_dottimes_dispositions,
           bifs_bitwise_and_dispositions, bifs_bitwise_or_dispositions, bifs_bitwise_xor_dispositions,
           bifs_min_dispositions, bifs_max_dispositions, bifs_eq_dispositions, bifs_ne_dispositions],
      commutativeOn t U = true := by
  decide +kernel

def acqKindOk : Acq → Nat → Bool
  | .int, 0 => true | .float, 1 => true | .bool, 2 => true
  | .string, 3 => true | .string, 4 => true | .bytes, 5 => true | .array, 6 => true | .map, 7 => true
  | _, _ => false

/-- No cell of any binary or unary table is nil, and no kernel is routed a kind on which its
unchecked type assertion would panic (all tables, all kinds; shared with C18). -/
theorem cells_kind_safe :
    (Gen.binaryTables.all fun p => kinds.all fun i => kinds.all fun j =>
      match cell2 p.2 i j with
      | none => false
      | some k => (kernelSig k).acq1.all (acqKindOk · i) && (kernelSig k).acq2.all (acqKindOk · j)) = true ∧
    (Gen.unaryTables.all fun p => kinds.all fun i =>
      match cell1 p.2 i with
      | none => false
      | some k => (kernelSig k).acq1.all (acqKindOk · i)) = true :=
  -- the binary half is C07's statement with `tableKindSafe` unfolded (the two `acqKindOk` are the
  -- same function written twice)
  ⟨Props.C07.cells_kind_safe, by decide +kernel⟩

theorem acqOk_eq_kind (q : Acq) (v : Val) : acqOk q v = acqKindOk q v.kind := by
  cases q <;> cases v <;> rfl

/-- `cells_kind_safe` read at values. -/
theorem binary_cell_safe {t : List (List K)} (ht : t ∈ Gen.binaryTables.map (·.2)) (a b : Val) :
    ∃ k, cell2 t a.kind b.kind = some k ∧ sigOk (kernelSig k) a b = true := by
  obtain ⟨p, hp, rfl⟩ := List.mem_map.mp ht
  have h := List.all_eq_true.mp (List.all_eq_true.mp (List.all_eq_true.mp cells_kind_safe.1 p hp)
    a.kind (kind_mem_kinds a)) b.kind (kind_mem_kinds b)
  split at h
  · cases h
  · next k hk => exact ⟨k, hk, by simpa only [sigOk, acqOk_eq_kind] using h⟩

theorem unary_cell_safe {t : List K} (ht : t ∈ Gen.unaryTables.map (·.2)) (a : Val) :
    ∃ k, cell1 t a.kind = some k ∧ (kernelSig k).acq1.all (acqOk · a) = true := by
  obtain ⟨p, hp, rfl⟩ := List.mem_map.mp ht
  have h := List.all_eq_true.mp (List.all_eq_true.mp cells_kind_safe.2 p hp) a.kind (kind_mem_kinds a)
  split at h
  · cases h
  · next k hk => exact ⟨k, hk, by simpa only [acqOk_eq_kind] using h⟩

/-- Skip-assignment-if-absent: every place where the DSL interpreter hands a value to an
lvalue's `Assign`/`AssignIndexed` (field, positional, `$*`, oosvar, `@*`, local, indexed, ENV —
they all go through the same interface) is inside `if !rvalue.IsAbsent()`; fact regenerated from
pkg/dsl/cst on every run.  The dynamic counterpart (no key is created, for every lvalue kind) is
the T3 part of the check. -/
theorem assign_absent_guarded :
    Gen.assignCallSites ≠ [] ∧ Gen.assignCallSites.all (fun p => p.2) = true := by decide


/-! ### The variadic `min`/`max` (model `Disp.variadic`: left fold of the regenerated binary table
over the arguments, each first sent through the regenerated unary vector, starting from the first
argument; the fold shape is tied to `BIF_min_variadic`/`BIF_max_variadic` by the `nary8`
correspondence). These are statements about VALUES (all payloads), not just kinds. -/

/-- Two-argument variadic `max`/`min` give the same result kind in either argument order, for all
144 operand-kind pairs and every payload.  (For an array or map operand the unary reduction is
outside the model and both sides are `unmodelled`; those pairs are covered by the correspondence.) -/
theorem variadic_pair_kinds_commute (a b : Val) :
    clsV (vmax [a, b]) = clsV (vmax [b, a]) ∧ clsV (vmin [a, b]) = clsV (vmin [b, a]) := by
  -- the proof term of `decide` written out (the payloads are variables): each side is evaluated
  -- to a numeral and the numerals are compared, whereas `rfl` has the unifier compare the two
  -- unevaluated folds structurally at every level of unfolding first, which is far slower
  cases a <;> cases b <;> exact ⟨of_decide_eq_true rfl, of_decide_eq_true rfl⟩

/-- Absent arguments are the identity of the variadic `max`/`min` on the ordered kinds, and a
lone argument keeps its kind. -/
theorem variadic_absent_ignored (a : Val) (h : ordered a = true) :
    vmax [.absent, a] = .val a ∧ vmin [.absent, a] = .val a ∧
    clsV (vmax [a, .absent]) = clsV (.val a) ∧ clsV (vmin [a, .absent]) = clsV (.val a) ∧
    clsV (vmax [a]) = clsV (.val a) ∧ clsV (vmin [a]) = clsV (.val a) := by
  cases a <;> first | exact absurd h (by decide) | exact ⟨rfl, rfl, rfl, rfl, rfl, rfl⟩

/-- No arguments: empty. A lone JSON null stays null; absent stays absent. -/
theorem variadic_degenerate :
    vmax [] = .val .void ∧ vmin [] = .val .void ∧ vmax [.null] = .val .null ∧ vmin [.null] = .val .null ∧
    vmax [.absent] = .val .absent ∧ vmin [.absent] = .val .absent ∧
    vmax [.absent, .absent] = .val .absent ∧ vmin [.absent, .absent] = .val .absent := by decide

/-- The variadic `max` of a non-empty list of ints is an int, a member of the list, and an upper
bound of the list — for lists of every length. -/
theorem vmax_ints_is_maximum (v : Int) (vs : List Int) :
    ∃ n, vmax ((v :: vs).map Val.int) = .val (.int n) ∧ n ∈ v :: vs ∧ ∀ m ∈ v :: vs, m ≤ n :=
  ⟨_, vmax_ints v vs, List.max?_eq_some_iff.mp List.max?_cons'⟩

/-! Non-vacuity: the predicates are not trivially true — they fail on a table they should fail on. -/
example : ordered (.int 3) = true ∧ vmax [.int 3, .int 7, .int (-2)] = .val (.int 7) := by decide
example : absentIdentityAt bifs_divide_dispositions 0 = false := by decide
example : commutativeOn bifs_dot_dispositions U = false := by decide
example : cellRet bifs_plus_dispositions 11 0 = some .in2 ∧ cellRet bifs_plus_dispositions 0 11 = some .in1 := by decide

end Props.C08
end Miller
