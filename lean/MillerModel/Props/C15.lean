/-
C15 — String, regex, formatting and hash functions match independent references.

The theorems here are about `Model/Strings.lean` alone (tied to pkg/bifs by the `str`
correspondence): UTF-8 decoding inverts encoding on every scalar value, `strlen` on ASCII, the ASCII
case-mapping and `lstrip` laws, literal `ssub`, base64 and hex decode ∘ encode = id; slicing and
padding appear as evaluated examples.  Nothing here is about regexes (`Model/Regex.lean`, tied to
Go's regexp by the `re` correspondence of C12), digests, printf-style formatting or the wrapping
verbs: the check compares those with independent references on the implementation.
-/
import MillerModel.Lemmas.C15
namespace Miller
namespace Props.C15
open Strings
open Lemmas.C15

/-- For ASCII text a character is a byte: `strlen` is the length. -/
theorem strlen_ascii (s : Bytes) (h : ∀ b ∈ s, b < 128) : strlen s = s.length :=
  congrArg List.length (runesAux_ascii s h 0)

/-- Decoding the encoding of any Unicode scalar value gives it back with the right width: a
multi-byte character is ONE character (2-, 3- and 4-byte forms, all code points). -/
theorem decode_encode_scalar (r : Nat) (hr : r ≤ 0x10FFFF) (hs : ¬ (0xD800 ≤ r ∧ r < 0xE000)) (rest : Bytes) :
    decodeRune (encodeRune r ++ rest) = (r, (encodeRune r).length) := by
  -- in each width the bytes are lead + base-64 digits of `r`, and the digits give `r` back
  unfold encodeRune
  by_cases h1 : r < 128
  · rw [if_pos h1]
    exact decodeRune_ascii h1 rest
  rw [if_neg h1]
  by_cases h2 : r < 0x800
  · rw [if_pos h2]
    refine (decodeRune_two rest (by omega) (by omega)).trans ?_
    congr 1
    omega
  -- `hs` and `hr` rule out the U+FFFD branch
  rw [if_neg h2, if_neg (by grind)]
  by_cases h3 : r < 0x10000
  · rw [if_pos h3]
    refine (decodeRune_three rest (by omega) (by omega) (by omega) (by omega) (by omega)).trans ?_
    congr 1
    grind
  · rw [if_neg h3]
    refine (decodeRune_four rest (by omega) (by omega) (by omega) (by omega) (by omega) (by omega)).trans ?_
    congr 1
    grind

theorem toupper_idempotent (s : Bytes) : toupper (toupper s) = toupper s := by
  simp [toupper, upper_upper_byte]

theorem tolower_toupper (s : Bytes) : tolower (toupper s) = tolower s := by
  simp [tolower, toupper, lower_upper_byte]

theorem case_mapping_keeps_length (s : Bytes) : (toupper s).length = s.length ∧ (tolower s).length = s.length := by
  simp [toupper, tolower]

theorem lstrip_no_leading_blank (s : Bytes) : ∀ c, (lstrip s).head? = some c → isBlank c = false := by
  intro c h
  have := List.head?_dropWhile_not isBlank s
  rwa [← lstrip, h] at this

theorem lstrip_idempotent (s : Bytes) : lstrip (lstrip s) = lstrip s := by
  -- nothing is left to strip from a string without a leading blank
  have h := lstrip_no_leading_blank s
  generalize lstrip s = t at h ⊢
  cases t with
  | nil => rfl
  | cons a r => simp [lstrip, h a rfl]

/-- `ssub`/`gssub` replace LITERALLY: when the text to find does not occur, nothing changes — in
particular regex metacharacters in it have no effect. -/
theorem ssub_no_occurrence (s old new : Bytes) (hne : old ≠ [])
    (h : ∀ t, ∀ pre, s = pre ++ t → hasPrefix t old = false ∨ t = []) : ssub s old new = s := by
  unfold ssub
  rw [if_neg (by simpa using hne)]
  induction s with
  | nil => rfl
  | cons c rest ih =>
    have hp : hasPrefix (c :: rest) old = false := by simpa using h (c :: rest) [] rfl
    simp only [ssub.go, hp, Bool.false_eq_true, if_false]
    rw [ih (fun t pre ht => h t (c :: pre) (by simp [ht]))]

/-- base64 decode ∘ encode = id on ALL byte strings (any length, any bytes). -/
theorem b64_roundtrip (s : Bytes) (h : ∀ b ∈ s, b < 256) : b64decode (b64encode s) = some s := by
  fun_induction b64encode s with
  | case1 => rfl
  | case2 a =>
    obtain ⟨⟨hp, hq, -, -⟩, e1, -, -⟩ := sextets (h a (by simp)) (Nat.zero_lt_succ _) (Nat.zero_lt_succ _)
    simp only [Nat.zero_div, Nat.add_zero] at hq e1
    simp only [b64decode, beq_self_eq_true, Bool.and_self, List.isEmpty_nil, if_true]
    rw [b64val_b64char _ hp, b64val_b64char _ hq]
    simp only [Option.bind_some, e1]
  | case3 a b =>
    obtain ⟨⟨hp, hq, hr, -⟩, e1, e2, -⟩ := sextets (h a (by simp)) (h b (by simp)) (Nat.zero_lt_succ _)
    simp only [Nat.zero_div, Nat.add_zero] at hr e2
    simp only [b64decode, b64char_ne_pad _ hr, beq_self_eq_true, Bool.false_and, Bool.true_and, List.isEmpty_nil,
      Bool.false_eq_true, if_false, if_true]
    rw [b64val_b64char _ hp, b64val_b64char _ hq, b64val_b64char _ hr]
    simp only [Option.bind_some, e1, e2]
  | case4 a b c rest ih =>
    simp only [List.forall_mem_cons] at h
    obtain ⟨⟨hp, hq, hr, ht⟩, e1, e2, e3⟩ := sextets h.1 h.2.1 h.2.2.1
    simp only [b64decode, b64char_ne_pad _ hr, b64char_ne_pad _ ht, Bool.false_and, Bool.false_eq_true, if_false]
    rw [b64val_b64char _ hp, b64val_b64char _ hq, b64val_b64char _ hr, b64val_b64char _ ht, ih h.2.2.2]
    simp only [Option.bind_some, e1, e2, e3]

/-- hex decode ∘ encode = id on all byte strings. -/
theorem hex_roundtrip (s : Bytes) (h : ∀ b ∈ s, b < 256) : hexDecode (hexEncode s) = some s := by
  induction s with
  | nil => rfl
  | cons a rest ih =>
    obtain ⟨ha, hrest⟩ := List.forall_mem_cons.mp h
    have ih := ih hrest
    rw [hexEncode] at ih ⊢
    rw [List.flatMap_cons, List.cons_append, List.cons_append, List.nil_append, hexDecode,
      hexVal_hexDigit _ (by omega), hexVal_hexDigit _ (by omega), ih]
    exact congrArg (fun x => some (x :: rest)) (Nat.div_add_mod' a 16)

example : strlen (str "abc") = 3 ∧ strlen [0xC3, 0xA9] = 1 ∧ strlen [0xE2, 0x82, 0xAC, 0x61] = 2 ∧ strlen [0xF0, 0x9F, 0x98, 0x80] = 1 ∧
    strlen [0xFF, 0xFE] = 2 ∧ strlen [0xC3] = 1 ∧ strlen [0xED, 0xA0, 0x80] = 3 := by decide
example : substr1 (str "hello") 2 4 = str "ell" ∧ substr1 (str "hello") (-3) (-1) = str "llo" ∧ substr1 (str "hello") 0 2 = str "he" ∧ substr1 (str "hello") 3 2 = [] ∧
    substr1 (str "hello") 4 9 = str "lo" ∧ substr1 [0x61, 0xC3, 0xA9, 0x62] 2 2 = [0xC3, 0xA9] := by decide
example : b64encode (str "hello") = str "aGVsbG8=" ∧ b64decode (str "aGVsbG8=") = some (str "hello") := by decide
example : leftpad (str "5") 4 (str "0") = str "0005" ∧ rightpad (str "ab") 5 (str "xy") = str "abxy" ∧ leftpad (str "abc") 2 (str "0") = str "abc" := by decide

end Props.C15
end Miller
