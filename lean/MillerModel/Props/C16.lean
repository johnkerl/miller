/-
C16 — Time conversion functions agree with the Gregorian calendar.

The model (`Model/Time.lean`) defines the proleptic Gregorian calendar by counting days from the
leap rule and the month lengths; sec2gmt / sec2gmtdate / gmt2sec / sec2dhms / sec2hms / dhms2sec
are written over it and tied to the real functions (Go's time package, pbnjay-strptime,
relative_time.go) by the `time` correspondence, dense around leap days, year ends, the epoch and
the range limits.  The theorems hold for EVERY instant in years 1..9999 / every integer.
-/
import MillerModel.Lemmas.C16
namespace Miller
namespace Props.C16
open Time Lemmas.C16

/-- The civil date computed for a day number is a real calendar date (month 1..12, day within the
month's length under the leap rule), and counting days back from it gives the day number: the
date printed for an instant is the ONLY date containing that instant. -/
theorem civil_date_is_valid_and_unique (n : Nat) :
    let c := civilFromDays n
    daysFromCivil c.1 c.2.1 c.2.2 = n ∧ 1 ≤ c.1 ∧ 1 ≤ c.2.1 ∧ c.2.1 ≤ 12 ∧ 1 ≤ c.2.2 ∧ c.2.2 ≤ monthLen c.1 c.2.1 :=
  civil_roundtrip n

/-- ROUND TRIP for every instant of years 1..9999: the text sec2gmt prints for `t` parses back,
by gmt2sec, to exactly `t` — so the printed date and time ARE the calendar date and time of `t`
(leap years, century rules, month lengths, negative times before the epoch included). -/
theorem gmt2sec_sec2gmt (t : Int) (h1 : minSec ≤ t) (h2 : t ≤ maxSec) : gmt2sec (sec2gmt t) = some t := by
  unfold sec2gmt
  simp only
  have hc := civil_roundtrip ((t - minSec).toNat / 86400)
  generalize civilFromDays ((t - minSec).toNat / 86400) = c at hc ⊢
  obtain ⟨y, m, d⟩ := c
  simp only at hc
  -- 315537897599 = maxSec - minSec, i.e. below day 3652059 = daysBeforeYear 10000 (by the closed form):
  -- the year has four digits
  have hs : (t - minSec).toNat ≤ 315537897599 := by unfold minSec maxSec at *; omega
  have hyr : y < 10000 := by
    obtain ⟨y', rfl⟩ : ∃ y', y = y' + 1 := ⟨y - 1, by omega⟩
    have := daysBeforeYear_closed y'
    unfold daysFromCivil at hc
    omega
  rw [gmt2sec_of_fields y m d _ _ _ hc.2 hyr (by omega) (by omega) (by omega)]
  simp only [Option.some.injEq]
  have : ((t - minSec).toNat : Int) = t - minSec := Int.toNat_of_nonneg (by omega)
  omega

theorem sec2gmtdate_is_date_part (t : Int) : sec2gmtdate t = (sec2gmt t).take 10 := rfl

/-- sec2dhms and dhms2sec are mutually inverse on ALL integers, negatives included. -/
theorem dhms2sec_sec2dhms (t : Int) : dhms2sec (sec2dhms t) = some t := by
  by_cases h : t < 0
  · rw [sec2dhms_neg t h, dhms2sec_minus (groups_of_abs _)]
    congr 1
    omega
  · obtain ⟨u, rfl⟩ : ∃ u : Nat, t = (u : Int) := ⟨t.toNat, by omega⟩
    exact dhms2sec_of_groups (sec2dhms_ne_nil _) (groups_of_abs u)

/-- hms2sec of the canonical `[-]HH:MM:SS` text: hours*3600 + minutes*60 + seconds, negated. -/
theorem sec2hms_fields (u : Nat) :
    sec2hms (u : Int) = (if u / 3600 < 10 then [48] ++ natText (u / 3600) else natText (u / 3600)) ++ [58] ++ pad2 (u / 60 % 60) ++ [58] ++ pad2 (u % 60) := by
  simp [sec2hms]

/-! The century rule (2000 is a leap year, 1900 and 2100 are not) and an instant before the epoch. -/
example : sec2gmt 951782400 = str "2000-02-29T00:00:00Z" ∧ sec2gmt (-2203891200) = str "1900-03-01T00:00:00Z" ∧
    sec2gmt 4107542400 = str "2100-03-01T00:00:00Z" ∧ sec2gmt (-1) = str "1969-12-31T23:59:59Z" := by
  -- one at a time: the conjunction decided as a whole costs the kernel nearly twice the work
  refine ⟨?_, ?_, ?_, ?_⟩
  all_goals decide +kernel
example : sec2dhms 500000 = str "5d18h53m20s" ∧ sec2dhms (-3661) = str "-1h01m01s" ∧ sec2dhms 59 = str "59s" ∧ sec2dhms 0 = str "0s" ∧
    sec2hms 500000 = str "138:53:20" ∧ sec2hms (-5) = str "-00:00:05" := by decide +kernel
example : isLeap 2000 = true ∧ isLeap 1900 = false ∧ isLeap 2024 = true ∧ isLeap 2100 = false := by decide

end Props.C16
end Miller
