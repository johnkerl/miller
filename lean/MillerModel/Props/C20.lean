/-
C20 — Fan-out outputs are complete, ordered, well-formed for any number of targets.

Model: `Model/Fanout.lean`, the LRU handle cache of pkg/output/file_output_handlers.go with the
capacity REGENERATED from the source (`Gen.lruFileHandlerCapacity`); tied to the real
`MultiOutputHandlerManager` by the `fanout` correspondence (real files, real writers).
The theorems quantify over EVERY history of (target, record) writes, every capacity, both modes.
-/
import MillerModel.Lemmas.C20
import MillerModel.Gen.Consts
namespace Miller
namespace Props.C20
open Fanout Lemmas.C20

/-- Final files after a history, starting with the files `f0` already on disk. -/
def finalFiles (cap : Nat) (am : Bool) (f0 : Files) (hist : List (Nat × Rec)) : Files :=
  (run cap am { files := f0 } hist).files

/-- COMPLETE AND ORDERED, for every history, capacity and mode — evictions and re-opens included:
the records held by a target's file, read document after document, are exactly the records
routed to that target, in stream order (after the file's previous contents in append mode;
replacing them in write mode). -/
theorem every_target_gets_its_records (cap : Nat) (am : Bool) (f0 : Files) (hist : List (Nat × Rec)) (t : Nat)
    (h : routed hist t ≠ []) :
    (docsOf (finalFiles cap am f0 hist) t).flatten
      = (if am then (docsOf f0 t).flatten else []) ++ routed hist t := by
  have := (inv_run cap am f0 hist).content t h
  rwa [base] at this

theorem untouched_targets_unchanged (cap : Nat) (am : Bool) (f0 : Files) (hist : List (Nat × Rec)) (t : Nat)
    (h : routed hist t = []) : docsOf (finalFiles cap am f0 hist) t = docsOf f0 t :=
  ((inv_run cap am f0 hist).fresh t h).1

/-- FULL STATEMENT (write mode, fresh directory): every target's file is ONE document holding the
records routed to it. -/
def C20_one_document (cap : Nat) : Prop :=
  ∀ (hist : List (Nat × Rec)) (t : Nat), routed hist t ≠ [] →
    docsOf (finalFiles cap false [] hist) t = [routed hist t]

/-- PROVED PART: when the history names no more distinct targets than the handle cache holds
(`D` lists them), every target's file is ONE document — after the previous contents in append
mode — holding exactly the records routed to it in stream order; for histories of every length
and every revisit pattern. -/
theorem one_document_partial (cap : Nat) (am : Bool) (f0 : Files) (D : List Nat) (hD : D.length ≤ cap)
    (hist : List (Nat × Rec)) (hh : ∀ w ∈ hist, w.1 ∈ D) (t : Nat) (h : routed hist t ≠ []) :
    docsOf (finalFiles cap am f0 hist) t = (if am then docsOf f0 t else []) ++ [routed hist t] :=
  (winv_run cap am f0 D hD hist hh).one t h

/-- The real capacity. -/
theorem one_document_up_to_capacity (hist : List (Nat × Rec)) (D : List Nat)
    (hD : D.length ≤ Gen.lruFileHandlerCapacity) (hh : ∀ w ∈ hist, w.1 ∈ D) (t : Nat) (h : routed hist t ≠ []) :
    docsOf (finalFiles Gen.lruFileHandlerCapacity false [] hist) t = [routed hist t] := by
  simpa using one_document_partial Gen.lruFileHandlerCapacity false [] D hD hist hh t h

/-- The full statement FAILS as soon as a target is revisited after its handle was evicted: with
capacity `c`, writing to targets 0..c and then to target 0 again leaves target 0 with two
documents (finding evicted-target-revisited; shown here for c = 2, replayed on the implementation
with 257 targets). -/
theorem C20_one_document_counterexample : ¬ C20_one_document 2 := by
  intro h
  have := h [(0, [(str "v", str "a")]), (1, [(str "v", str "b")]), (2, [(str "v", str "c")]), (0, [(str "v", str "d")])] 0 (by decide)
  revert this; decide

example : docsOf (finalFiles 2 false [] [(0, [(str "v", str "a")]), (1, [(str "v", str "b")]), (0, [(str "v", str "c")])]) 0
    = [[[(str "v", str "a")], [(str "v", str "c")]]] := by decide

end Props.C20
end Miller
