/-
C04 — Output is independent of batching and scheduling, and every run terminates.

What a theorem can carry here is the LOGIC of batching: every verb is a state machine fed batch
after batch, and the records it forwards do not depend on where the batch boundaries fall; chains
compose; an early-exit verb gives the same output on any prefix that contains what it needs.  The
behaviour that lives in the Go runtime (goroutine interleavings, channel capacities, the
done-signal relay, termination of the goroutine network, flushing while the input is still open)
cannot be exhibited by a Lean model: it is the T3 part of the check (the real binary under seeded
scheduling perturbation at the lib.VerifPoint hook points, batch sizes, GOMAXPROCS, timeouts).
-/
import MillerModel.Model.Pipeline
import MillerModel.Lemmas.VerbLaws
namespace Miller
namespace Props.C04
open Verbs Pipeline

/-- Running a machine over `b ++ rest` is folding its step over the batch `b`, as `stageFrom` does
(state and output so far in a pair), and running on from there.  `acc`, the output collected
before `b`, is carried along because the induction on `b` needs it general. -/
theorem fold_step_eq {σ} (m : Machine σ) (b : List Rec) (s : σ) (acc rest : List Rec) :
    let st := b.foldl (fun (a : σ × List Rec) r => let (s', out) := m.step a.1 r; (s', a.2 ++ out)) (s, acc)
    acc ++ m.runFrom s (b ++ rest) = st.2 ++ m.runFrom st.1 rest := by
  induction b generalizing s acc with
  | nil => simp
  | cons r b ih =>
    have := ih (m.step s r).1 (acc ++ (m.step s r).2)
    simp only [List.append_assoc] at this
    exact this

theorem stageFrom_flatten {σ} (m : Machine σ) (s : σ) (bs : List (List Rec)) :
    (stageFrom m s bs).flatten = m.runFrom s bs.flatten := by
  induction bs generalizing s with
  | nil => simp [stageFrom, Machine.runFrom]
  | cons b bs ih =>
    simp only [stageFrom, List.flatten_cons]
    rw [ih]
    exact (fold_step_eq m b s [] bs.flatten).symm

/-- BATCHING INDEPENDENCE (one verb): however the input is cut into batches — any number of
batches of any sizes, empty ones included — the records a verb forwards, read in order, are the
records it produces on the whole input. -/
theorem stage_independent_of_batching {σ} (m : Machine σ) (bs : List (List Rec)) :
    (stage m bs).flatten = m.run bs.flatten :=
  stageFrom_flatten m m.init bs

/-- BATCHING INDEPENDENCE (whole chain): for every `then` chain and every cutting of the input
into batches, the batch-wise pipeline delivers to the writer, in order, exactly the records of
running each verb on the whole output of the previous one. Nothing is lost, duplicated or
reordered by the batching. -/
theorem chain_independent_of_batching (ms : List AnyMachine) (bs : List (List Rec)) :
    (chainBatched ms bs).flatten = chainRun ms bs.flatten :=
  -- flattening commutes with one stage, hence with the fold over the chain
  (List.foldl_hom List.flatten fun bs am => (stage_independent_of_batching am.m bs).symm).symm

/-- Two cuttings of the same input give the same output. -/
theorem same_output_for_any_two_batchings (ms : List AnyMachine) (bs cs : List (List Rec))
    (h : bs.flatten = cs.flatten) : (chainBatched ms bs).flatten = (chainBatched ms cs).flatten := by
  rw [chain_independent_of_batching, chain_independent_of_batching, h]

/-- EARLY EXIT: `head -n k` needs only the first k records — its output is the same on any
prefix of the input that contains them, which is why the reader may stop early when `head`
signals that it is done. -/
theorem head_output_needs_only_a_prefix (n k : Nat) (xs : List Rec) (hk : n ≤ k) :
    (headUnkeyed n).run (xs.take k) = (headUnkeyed n).run xs := by
  show (headUnkeyed n).runFrom 0 _ = (headUnkeyed n).runFrom 0 _
  rw [Lemmas.VerbLaws.headUnkeyed_runFrom, Lemmas.VerbLaws.headUnkeyed_runFrom, List.take_take, Nat.sub_zero,
    Nat.min_eq_left hk]

/-! Non-vacuity -/
example : (chainBatched [⟨_, headUnkeyed 2⟩, ⟨_, tac⟩] [[[(str "a", str "1")]], [], [[(str "a", str "2")], [(str "a", str "3")]]]).flatten
    = [[(str "a", str "2")], [(str "a", str "1")]] := by decide

end Props.C04
end Miller
