/-
C17 — Failures are never silent: every fault gives non-zero exit and a diagnostic.

What is proved: the error-delivery protocol between a failing verb, the writer and `Stream`
(Model/ErrorProtocol.lean), for EVERY interleaving of their atomic actions, from the two facts
regenerated from the source.  What is exercised on the real binary (T3): fault kinds x positions x
batch sizes x scheduling perturbation seeds -> non-zero exit and a diagnostic.
-/
import MillerModel.Model.ErrorProtocol
import MillerModel.Gen.Facts
namespace Miller
namespace Props.C17
open ErrorProtocol

def sourceFacts : Facts :=
  { errorBeforeMarker := Gen.errorSendBeforeMarkerForward,
    finalDrain := Gen.streamFinalDrains.contains "dataProcessingErrorChannel" }

/-- The regenerated facts: error posted before the marker is forwarded; both error channels are
drained after the loop; the final flush error is not dropped; the error channel is buffered, so
the non-blocking send of the first error always succeeds. -/
theorem source_facts_hold :
    Gen.errorSendBeforeMarkerForward = true ∧
    Gen.streamFinalDrains.contains "dataProcessingErrorChannel" = true ∧
    Gen.streamFinalDrains.contains "inputErrorChannel" = true ∧
    Gen.streamFlushErrorChecked = true ∧
    1 ≤ Gen.dataErrorChannelCapacity := by decide

/-- What holds in every reachable state under the source's two facts.  The key field is `held`: once
the error is posted it is never lost, it sits in the channel or has already been taken into `retval`.
The first three say that leaving the loop needs the done signal, that the marker, and that the post,
so at the final drain `held` applies. -/
structure Inv (s : PState) : Prop where
  markerPosted : s.marker = true → s.posted = true
  doneMarker : s.doneSig = true → s.marker = true
  phaseDone : 1 ≤ s.phase → s.doneSig = true
  held : s.posted = true → s.errBuf = true ∨ s.retval = true
  returned : s.phase = 2 → s.retval = true

theorem inv_reach (f : Facts) (h1 : f.errorBeforeMarker = true) (h2 : f.finalDrain = true)
    (s : PState) (hr : Reach f s) : Inv s := by
  induction hr with
  | init => exact ⟨by decide, by decide, by decide, by decide, by decide⟩
  | step s t _ hst ih =>
    cases hst with
    | post hp =>
      exact ⟨fun _ => rfl, ih.doneMarker, ih.phaseDone, fun _ => Or.inl rfl, ih.returned⟩
    | forward hm hg =>
      exact ⟨fun _ => hg h1, fun hd => rfl, ih.phaseDone, ih.held, ih.returned⟩
    | writerDone hm hd =>
      exact ⟨ih.markerPosted, fun _ => hm, fun _ => rfl, ih.held, ih.returned⟩
    | recvErr hp he =>
      exact ⟨ih.markerPosted, ih.doneMarker, ih.phaseDone, fun _ => Or.inr rfl, fun _ => rfl⟩
    | recvDone hp hd =>
      refine ⟨ih.markerPosted, ih.doneMarker, fun _ => hd, ih.held, ?_⟩
      intro h; simp at h
    | drain hp =>
      -- the marker was forwarded, so the error was posted: it is still in the buffer, or already taken
      have hdone := ih.phaseDone (by omega)
      have hret : (s.retval || (f.finalDrain && s.errBuf)) = true := by
        rcases ih.held (ih.markerPosted (ih.doneMarker hdone)) with h | h <;> simp [h, h2]
      exact ⟨ih.markerPosted, ih.doneMarker, fun _ => hdone, fun _ => Or.inr hret, fun _ => hret⟩

/-- NO SILENT FAILURE, for every interleaving: when a verb fails, in whatever order the scheduler
runs the failing verb's sends, the writer's done signal and Stream's select cases, `Stream` never
returns nil — so the entrypoint exits non-zero with the diagnostic.  Holds for the regenerated facts. -/
theorem stream_returns_the_error (s : PState) (hr : Reach sourceFacts s) (hret : s.phase = 2) :
    s.retval = true :=
  (inv_reach sourceFacts source_facts_hold.1 source_facts_hold.2.1 s hr).returned hret

/-- Why the ordering fact matters: were the marker forwarded before the error is posted, there is
a schedule on which Stream returns nil although the verb failed (the failure would be silent). -/
theorem marker_before_error_can_be_silent :
    ∃ s, Reach { errorBeforeMarker := false, finalDrain := true } s ∧ s.phase = 2 ∧ s.retval = false := by
  let f : Facts := { errorBeforeMarker := false, finalDrain := true }
  have r0 : Reach f {} := Reach.init
  have r1 := Reach.step _ _ r0 (Step.forward {} rfl (by intro h; cases h))
  have r2 := Reach.step _ _ r1 (Step.writerDone _ rfl rfl)
  have r3 := Reach.step _ _ r2 (Step.recvDone _ rfl rfl)
  have r4 := Reach.step _ _ r3 (Step.drain _ rfl)
  exact ⟨_, r4, rfl, rfl⟩

/-- … and why the final drain matters: without it, an error posted after Stream's last look at
the channel but before the done signal is lost. -/
theorem no_final_drain_can_be_silent :
    ∃ s, Reach { errorBeforeMarker := true, finalDrain := false } s ∧ s.phase = 2 ∧ s.retval = false := by
  let f : Facts := { errorBeforeMarker := true, finalDrain := false }
  have r0 : Reach f {} := Reach.init
  have r1 := Reach.step _ _ r0 (Step.post {} rfl)
  have r2 := Reach.step _ _ r1 (Step.forward _ rfl (fun _ => rfl))
  have r3 := Reach.step _ _ r2 (Step.writerDone _ rfl rfl)
  have r4 := Reach.step _ _ r3 (Step.recvDone _ rfl rfl)
  have r5 := Reach.step _ _ r4 (Step.drain _ rfl)
  exact ⟨_, r5, rfl, rfl⟩

/-- Non-vacuity: a returning state is reachable under the source facts (post, recvErr, forward,
writerDone, recvDone, drain). -/
example : ∃ s, Reach sourceFacts s ∧ s.phase = 2 := by
  have r0 : Reach sourceFacts {} := Reach.init
  have r1 := Reach.step _ _ r0 (Step.post {} rfl)
  have r2 := Reach.step _ _ r1 (Step.recvErr _ rfl rfl)
  have r3 := Reach.step _ _ r2 (Step.forward _ rfl (fun _ => rfl))
  have r4 := Reach.step _ _ r3 (Step.writerDone _ rfl rfl)
  have r5 := Reach.step _ _ r4 (Step.recvDone _ rfl rfl)
  have r6 := Reach.step _ _ r5 (Step.drain _ rfl)
  exact ⟨_, r6, rfl⟩

end Props.C17
end Miller
